-- root of the PqV library: imports every module so `lake build PqV` checks everything
-- (`PqV/Audit/*` is written by `./check` and read with `lake env lean`; it is not part of the library)
import PqV.Prelude.Py
import PqV.Spec.Bits
import PqV.Spec.Delta
import PqV.Spec.Dremel
import PqV.Spec.File
import PqV.Spec.Hybrid
import PqV.Spec.Plain
import PqV.Spec.Thrift
import PqV.Spec.Typed
import PqV.Spec.Varint
import PqV.Impl.Access
import PqV.Impl.Append
import PqV.Impl.Assemble
import PqV.Impl.Dataset
import PqV.Impl.DatasetOps
import PqV.Impl.Dtypes
import PqV.Impl.Footer
import PqV.Impl.Kernels
import PqV.Impl.Merge
import PqV.Impl.Partition
import PqV.Impl.Prune
import PqV.Impl.ReadPage
import PqV.Impl.RowFilter
import PqV.Impl.Sched
import PqV.Impl.Stats
import PqV.Impl.ThriftSer
import PqV.Impl.WritePage
import PqV.Gen.Access
import PqV.Gen.AppendIO
import PqV.Gen.CallSites
import PqV.Gen.ColumnFilterShape
import PqV.Gen.Filter
import PqV.Gen.FooterIO
import PqV.Gen.HandleState
import PqV.Gen.Idl
import PqV.Gen.KvMerge
import PqV.Gen.Nested
import PqV.Gen.PartNumbering
import PqV.Gen.PerCall
import PqV.Gen.RangeIndex
import PqV.Gen.ReadGuards
import PqV.Gen.SchemaLevels
import PqV.Gen.SkipDef
import PqV.Gen.Specs
import PqV.Gen.Stats
import PqV.Gen.Typemap
import PqV.Gen.WriteLayout
import PqV.Lemmas.Access
import PqV.Lemmas.Assemble
import PqV.Lemmas.Bits
import PqV.Lemmas.Dataset
import PqV.Lemmas.DatasetInv
import PqV.Lemmas.DecodePage
import PqV.Lemmas.Delta
import PqV.Lemmas.Dremel
import PqV.Lemmas.Filter
import PqV.Lemmas.Footer
import PqV.Lemmas.Hybrid
import PqV.Lemmas.KBitpacked
import PqV.Lemmas.KDelta
import PqV.Lemmas.KDeltaLoop
import PqV.Lemmas.KEncode
import PqV.Lemmas.KHybrid
import PqV.Lemmas.KPlain
import PqV.Lemmas.KVarint
import PqV.Lemmas.Page
import PqV.Lemmas.Prune
import PqV.Lemmas.ReadPage
import PqV.Lemmas.Rejected
import PqV.Lemmas.SkipDef
import PqV.Lemmas.Thrift
import PqV.Lemmas.ThriftReadRefine
import PqV.Lemmas.ThriftSerRefine
import PqV.Lemmas.Tiles
import PqV.Lemmas.Varint
import PqV.Lemmas.Wrap
import PqV.Lemmas.WritePage
import PqV.Props.C01
import PqV.Props.C02
import PqV.Props.C03
import PqV.Props.C04
import PqV.Props.C05
import PqV.Props.C06
import PqV.Props.C07
import PqV.Props.C08
import PqV.Props.C09
import PqV.Props.C10
import PqV.Props.C11
import PqV.Props.C12
import PqV.Props.C13
import PqV.Props.C14
import PqV.Props.C15
import PqV.Props.C16
import PqV.Props.C17
import PqV.Props.C18
import PqV.Props.C19
import PqV.Props.C20
import PqV.Drv.Access
import PqV.Drv.Dtype
import PqV.Drv.File
import PqV.Drv.Filter
import PqV.Drv.Footer
import PqV.Drv.Fs
import PqV.Drv.Kern
import PqV.Drv.Merge
import PqV.Drv.Nested
import PqV.Drv.Part
import PqV.Drv.Proto
import PqV.Drv.RowFilter
import PqV.Drv.Stats
import PqV.Drv.Thrift
import PqV.Drv.WPage
