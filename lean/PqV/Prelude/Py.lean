/-
  Prelude.Py — the small Python value universe and helper semantics that the Python→Lean
  translator (tools/translate_py.py) targets.  Scalars are `Int` (any linearly ordered scalar
  domain); `None` is `Option.none`; a comparison with `None` raises `TypeError` as in Python 3.
  Core Lean only.
-/
namespace PqV.Py

inductive PyErr where
  | typeError
  | indexError
  | valueError
  deriving Repr, DecidableEq

abbrev Py := Except PyErr

/-- run-time view of a scalar-or-None value -/
inductive PyVal where
  | none
  | int (i : Int)
  deriving Repr, DecidableEq

class ToPy (α : Type) where
  toPy : α → PyVal
export ToPy (toPy)

instance : ToPy Int := ⟨PyVal.int⟩
instance : ToPy Nat := ⟨fun n => PyVal.int n⟩
instance : ToPy (Option Int) := ⟨fun o => match o with | some i => .int i | .none => .none⟩
instance : ToPy PyVal := ⟨id⟩

def pyCmp (f : Int → Int → Bool) (a b : PyVal) : Py Bool :=
  match a, b with
  | .int x, .int y => .ok (f x y)
  | _, _ => .error .typeError

def pyLt (a b : PyVal) : Py Bool := pyCmp (fun x y => decide (x < y)) a b
def pyLe (a b : PyVal) : Py Bool := pyCmp (fun x y => decide (x ≤ y)) a b
def pyGt (a b : PyVal) : Py Bool := pyCmp (fun x y => decide (x > y)) a b
def pyGe (a b : PyVal) : Py Bool := pyCmp (fun x y => decide (x ≥ y)) a b
/-- `==` never raises: None == None, None != int -/
def pyEq (a b : PyVal) : Py Bool := .ok (decide (a = b))
def pyNe (a b : PyVal) : Py Bool := .ok (decide (a ≠ b))
def pyIsNone (a : PyVal) : Py Bool := .ok (decide (a = .none))
def pyIsNotNone (a : PyVal) : Py Bool := .ok (decide (a ≠ .none))

/-- `x in values` for a list of ints (None is never in it) -/
def pyIn (a : PyVal) (l : List Int) : Py Bool :=
  match a with
  | .int x => .ok (l.contains x)
  | .none => .ok false
def pyNotIn (a : PyVal) (l : List Int) : Py Bool := (pyIn a l).map not

def pyAnd (a : Py Bool) (b : Py Bool) : Py Bool := a >>= fun x => if x then b else .ok false
def pyOr (a : Py Bool) (b : Py Bool) : Py Bool := a >>= fun x => if x then .ok true else b
def pyNot (a : Py Bool) : Py Bool := a.map not

/-- insertion sort: `sorted(values)` -/
def insertSorted (x : Int) : List Int → List Int
  | [] => [x]
  | y :: ys => if x ≤ y then x :: y :: ys else y :: insertSorted x ys
def pySorted (l : List Int) : List Int := l.foldr insertSorted []

/-- `l[i]` with Python negative indexing -/
def pyIndex (l : List Int) (i : Int) : Py PyVal :=
  let j : Int := if i < 0 then i + l.length else i
  if j < 0 then .error .indexError else
  match l[j.toNat]? with
  | some v => .ok (.int v)
  | none => .error .indexError

/-- `np.searchsorted(l, v, side='left')`: number of elements `< v` (l sorted) -/
def searchsortedLeft (l : List Int) (v : PyVal) : Py Nat :=
  match v with
  | .int x => .ok (l.filter (fun y => decide (y < x))).length
  | .none => .error .typeError
/-- `side='right'`: number of elements `≤ v` -/
def searchsortedRight (l : List Int) (v : PyVal) : Py Nat :=
  match v with
  | .int x => .ok (l.filter (fun y => decide (y ≤ x))).length
  | .none => .error .typeError

/-- statement-level `if c: A else: B` with a raising condition -/
def pyIf {α} (c : Py Bool) (t e : Py α) : Py α := c >>= fun b => if b then t else e

@[simp] theorem ok_bind {ε α β : Type} (a : α) (f : α → Except ε β) : (Except.ok a >>= f) = f a := rfl
@[simp] theorem error_bind {ε α β : Type} (e : ε) (f : α → Except ε β) :
    ((Except.error e : Except ε α) >>= f) = Except.error e := rfl
@[simp] theorem map_ok {ε α β : Type} (f : α → β) (a : α) :
    Except.map f (Except.ok a : Except ε α) = Except.ok (f a) := rfl
@[simp] theorem map_error {ε α β : Type} (f : α → β) (e : ε) :
    Except.map f (Except.error e : Except ε α) = Except.error e := rfl

/-! What the primitives return on arguments of known form.  With these as `simp` lemmas a translated
    function whose conditions do not raise normalises to `.ok` of a Boolean expression. -/

@[simp] theorem toPy_int (i : Int) : toPy i = PyVal.int i := rfl
@[simp] theorem toPy_some (i : Int) : toPy (some i) = PyVal.int i := rfl
@[simp] theorem toPy_none : toPy (none : Option Int) = PyVal.none := rfl
@[simp] theorem toPy_pyVal (v : PyVal) : toPy v = v := rfl
@[simp] theorem pyCmp_int (f : Int → Int → Bool) (x y : Int) : pyCmp f (.int x) (.int y) = .ok (f x y) := rfl
@[simp] theorem pyIn_int (x : Int) (l : List Int) : pyIn (.int x) l = .ok (l.contains x) := rfl
@[simp] theorem pyIn_none (l : List Int) : pyIn .none l = .ok false := rfl
@[simp] theorem searchsortedLeft_int (l : List Int) (x : Int) :
    searchsortedLeft l (.int x) = .ok (l.filter (fun y => decide (y < x))).length := rfl
@[simp] theorem searchsortedRight_int (l : List Int) (x : Int) :
    searchsortedRight l (.int x) = .ok (l.filter (fun y => decide (y ≤ x))).length := rfl
@[simp] theorem pyIndex_zero (a : Int) (t : List Int) : pyIndex (a :: t) 0 = .ok (.int a) := rfl
theorem pyIndex_neg_one (l : List Int) (hne : l ≠ []) : pyIndex l (-1) = .ok (.int (l.getLast hne)) := by
  have hpos := List.length_pos_iff.mpr hne
  have e : (-1 + (l.length : Int)).toNat = l.length - 1 := by omega
  have hj : ¬ (-1 + (l.length : Int) < 0) := by omega
  simp [pyIndex, hj, e, List.getLast_eq_getElem, List.getElem?_eq_getElem (by omega : l.length - 1 < l.length)]
attribute [simp] pyLt pyLe pyGt pyGe pyEq pyNe pyIsNone pyIsNotNone pyNotIn

@[simp] theorem pyAnd_false (b : Py Bool) : pyAnd (.ok false) b = .ok false := rfl
@[simp] theorem pyAnd_true (b : Py Bool) : pyAnd (.ok true) b = b := rfl
@[simp] theorem pyAnd_ok_ok (a b : Bool) : pyAnd (.ok a) (.ok b) = .ok (a && b) := by cases a <;> rfl
@[simp] theorem pyIf_true {α} (t e : Py α) : pyIf (.ok true) t e = t := rfl
@[simp] theorem pyIf_false {α} (t e : Py α) : pyIf (.ok false) t e = e := rfl
@[simp] theorem pyIf_ok_ok {α} (b : Bool) (x y : α) :
    pyIf (.ok b) (.ok x) (.ok y) = .ok (bif b then x else y) := by cases b <;> rfl

/-! Which answers the Boolean combinations cannot give: the shape of every "never excludes" argument. -/

/-- Also the loop step `if a: return True` followed by `r`, which is `pyOr a r` unfolded. -/
theorem pyOr_ne_true {a b : Py Bool} (ha : a ≠ .ok true) (hb : b ≠ .ok true) : pyOr a b ≠ .ok true := by
  rcases a with _ | _ | _ <;> simp_all [pyOr]

theorem pyNot_ne_false {a : Py Bool} (ha : a ≠ .ok true) : pyNot a ≠ .ok false := by
  rcases a with _ | _ | _ <;> simp_all [pyNot]

/-- `any([a, b...])` with every element evaluated first -/
theorem bind_map_or_ne_false {a b : Py Bool} (h : a ≠ .ok false ∨ b ≠ .ok false) :
    (a >>= fun x => b.map (x || ·)) ≠ .ok false := by
  rcases a with _ | _ | _ <;> rcases b with _ | _ | _ <;> simp_all

end PqV.Py
