import PqV.Lemmas.WritePage
import PqV.Lemmas.Tiles
/-!
# C02 — written files are valid Parquet that an independent reader decodes identically

The independent reader is `Spec.File` (run on the real bytes of every written file by harness/c02.py).
The theorems here establish, for ALL inputs, that this reader's building blocks accept and invert
every layout a conforming writer may choose for the parts fastparquet writes: level blocks, PLAIN
values of every physical type, and dictionary pages with index streams.  So a file
that `Spec.File` decodes to a table is a file every conforming reader decodes to that table.
-/
namespace PqV.Props.C02
open PqV.Spec

/-- **definition / repetition level block (v1)**: 4-byte length + hybrid stream with any run mixture
    (fastparquet writes one bit-packed run; other writers mix) decodes to the levels, and the
    reader continues exactly behind it. -/
theorem level_block_decodes (maxLevel n : Nat) (hm : maxLevel ≠ 0) (rs : List Run) (tail : List Nat)
    (hwf : ∀ r ∈ rs, r.wf (widthFor maxLevel) = true) (hn : n ≤ (rs.flatMap Run.values).length)
    (hlen : (encodeRuns (widthFor maxLevel) rs).length < 2 ^ 32) :
    levelsV1 maxLevel n (leBytes 4 (encodeRuns (widthFor maxLevel) rs).length ++ encodeRuns (widthFor maxLevel) rs ++ tail)
      = some ((rs.flatMap Run.values).take n, tail) := by
  have := ((RunStream.of_runs hwf n).levelsV1 hm rfl hlen tail).1
  rwa [List.length_take_of_le hn] at this

/-- **PLAIN booleans**: bit-packed LSB first, padded to whole bytes, any count -/
theorem plain_booleans_decode (bits : List Nat) (hb : ∀ v ∈ bits, v < 2) :
    plainDecode PT_BOOLEAN 0 bits.length (packLE 1 bits) = some (bits.map Cell.int) := by
  simpa using Impl.plainDecode_bool 0 bits [] [] (by simpa using hb)

/-- **PLAIN INT32 / INT64 / FLOAT / DOUBLE / INT96** (little-endian patterns of the type's width) -/
theorem plain_fixed_decode (ptype tl w : Nat) (hb : ptype ≠ PT_BOOLEAN) (hba : ptype ≠ PT_BYTE_ARRAY) (hf : ptype ≠ PT_FLBA)
    (hw : fixedWidth ptype tl = some w) (vals : List Nat) (hv : ∀ v ∈ vals, v < 256 ^ w) :
    plainDecode ptype tl vals.length (vals.flatMap (leBytes w)) = some (vals.map Cell.int) := by
  have := plainDecode_fixed hw (leBytes w) Cell.int vals [] fun v hm =>
    ⟨leBytes_length w v, by rw [leNat_leBytes_lt (hv v hm)]; simp [hf]⟩
  rwa [List.append_nil] at this

/-- **PLAIN BYTE_ARRAY**: 4-byte length + bytes, any lengths (incl. empty), any count -/
theorem plain_byte_arrays_decode (items : List (List Nat)) (hl : ∀ it ∈ items, it.length < 2 ^ 32) :
    plainDecode PT_BYTE_ARRAY 0 items.length (items.flatMap fun it => leBytes 4 it.length ++ it) = some (items.map Cell.bytes) := by
  have := plainByteArrays_flatMap (fun it => leBytes 4 it.length ++ it) Cell.bytes items [] (fun it hit => ⟨it, hl it hit, rfl, rfl⟩) []
  simpa [plainDecode, PT_BYTE_ARRAY, PT_BOOLEAN] using this

/-- **dictionary-encoded data page**: width byte + any run mixture of in-range indices → the
    dictionary entries, in order -/
theorem dictionary_values_decode (ptype tl enc w n : Nat) (he : enc = ENC_PLAIN_DICTIONARY ∨ enc = ENC_RLE_DICTIONARY)
    (dict : List Cell) (rs : List Run) (tail : List Nat) (hwf : ∀ r ∈ rs, r.wf w = true)
    (hn : n ≤ (rs.flatMap Run.values).length) (hin : ∀ i ∈ (rs.flatMap Run.values).take n, i < dict.length) :
    decodeValues ptype tl enc (some dict) n (w :: (encodeRuns w rs ++ tail))
      = some (((rs.flatMap Run.values).take n).map fun i => dict.getD i Cell.null) := by
  unfold decodeValues
  have h0 : ¬ (enc = ENC_PLAIN) := by rcases he with h | h <;> simp [h, ENC_PLAIN, ENC_PLAIN_DICTIONARY, ENC_RLE_DICTIONARY]
  simp only [h0, if_false, he, if_true, dictIndices_runs w n rs tail hwf hn]
  exact dict_lookup dict _ hin

/-- **null scatter** puts the decoded values at the rows whose level is the maximum, nulls elsewhere -/
theorem nulls_and_values (m : Nat) (defs : List Nat) (vals : List Cell)
    (h : vals.length = countMax m defs) (hnn : ∀ v ∈ vals, v ≠ Cell.null) :
    (scatter m defs vals).length = defs.length ∧
    (scatter m defs vals).filter (fun c => decide (c ≠ Cell.null)) = vals :=
  ⟨scatter_length m defs vals, scatter_filter m defs vals h hnn⟩

/-- **what the validator accepts as the pages of a chunk does tile it**: if `chunkPages` (the page walk `Spec.File` runs on
    the real bytes of every column chunk) returns a page list for the byte range `[start, stop)`, then the first page header
    starts at `start`, every next header starts exactly where the previous page's payload ends (header offset + header
    length + `compressed_page_size`), the last payload ends at `stop` — no gap, no overlap, no overrun — and every entry is
    what `parsePage` reads at its offset.  So a file whose pages do not tile a chunk, or whose recorded
    `total_compressed_size` / offsets do not describe the bytes present, cannot be accepted. -/
theorem accepted_pages_tile_the_chunk (file : Array Nat) (fuel start stop : Nat) (ps : List PageInfo)
    (h : chunkPages file fuel start stop [] = .ok ps) :
    Tiles start stop ps ∧ ∀ p ∈ ps, parsePage file p.hdrOff = .ok p := by
  obtain ⟨tail, rfl, ht, hall⟩ := chunkPages_acc file fuel start stop [] ps h
  exact ⟨ht, hall⟩

/-- **…and the value counts it reports add up**: when the page loop `decodePages` accepts the pages of a chunk, the row count
    it reports is the sum of `num_values` over the data pages (a dictionary page contributes none) — which `decodeChunk`
    then requires to equal `ColumnMetaData.num_values` and the row group's `num_rows`.  Proved over every branch of
    `decodePage` (dictionary, v1, v2). -/
theorem accepted_pages_count_rows (leaf : Leaf) (pages : List (PageInfo × List Nat)) (acc : PageAcc)
    (h : decodePages leaf {} pages = .ok acc) :
    acc.count = ((pages.filter (fun x => x.1.ptypeTag != 2)).map (fun x => x.1.numValues)).sum :=
  (decodePages_levels h).1.trans (Nat.zero_add _)

/-- **…with one definition level per value**: for the accepted pages of a chunk the validator has decoded exactly as many
    definition levels as `num_values` announces, page by page (v1: the length-prefixed block must yield `num_values` levels;
    v2: the level bytes must) — so for a flat column "cells = levels" and the null count it derives (levels below the maximum)
    is a count over exactly the chunk's rows. -/
theorem accepted_pages_one_level_per_value (leaf : Leaf) (pages : List (PageInfo × List Nat)) (acc : PageAcc)
    (h : decodePages leaf {} pages = .ok acc) :
    acc.defs.length = acc.count :=
  (decodePages_levels h).2.1.trans (decodePages_levels h).1.symm

example : levelsV1 1 5 (leBytes 4 2 ++ encodeRuns 1 [Run.bp [1, 0, 1, 1, 0, 0, 0, 0]] ++ [9])
    = some ([1, 0, 1, 1, 0], [9]) := by decide +kernel
example : fixedWidth PT_INT64 0 = some 8 := by decide
example : plainDecode PT_INT64 0 2 ([7, 300].flatMap (leBytes 8)) = some [Cell.int 7, Cell.int 300] := by decide +kernel

/-- **the framing check used on every written file raises no false alarm**: a level or
    dictionary-index stream made of well-formed runs (any mixture, any width, last group padded to 8)
    holding at least the `n` values the page header announces is accepted by `hybridTight`, whatever
    bytes follow it in the page (fastparquet appends 8 zero bytes to v1 pages).  A stream it rejects
    therefore has a run whose announced payload is not all inside the page. -/
theorem framing_check_accepts_conforming (w n : Nat) (rs : List Run) (tail : List Nat)
    (hwf : ∀ r ∈ rs, r.wf w = true) (hn : n ≤ (rs.flatMap Run.values).length) :
    hybridTight w n (encodeRuns w rs ++ tail) = true :=
  hybridTight_encodeRuns w n rs tail hwf hn

/-- the check is not vacuous: a group of eight 8-bit indices announced, seven stored -/
example : hybridTight 8 7 [3, 0, 1, 2, 0, 1, 2, 0] = false := by decide

section writtenChunk
open PqV.Impl

/-- **every column chunk the writer lays down is valid and is decoded by the independent reader to the cells that
    went in.**  `writerChunk` is the model of `writer.write_column` for a flat column (tied to the real writer byte for
    byte by the `wpage.chunk` correspondence on every file the harness writes): optional dictionary page, then one data
    page per slice of rows — definition-level block of `make_definitions` (one RLE run when the page has no null, one
    bit-packed run of the not-null bits otherwise; 4-byte length prefix in v1), the values of `encode_plain` or the
    index run of `encode_dict`, 8 zero bytes after a v1 page — with the header numbers `write_column` records.
    `decodePages` is the page loop of `Spec.File` (the very function run on the real bytes).  For ANY column spec
    (physical type, REQUIRED / OPTIONAL, page v1 / v2, PLAIN / dictionary with 1-, 2- or 4-byte codes), ANY number of
    pages of ANY sizes (also empty pages and pages of nulls only) and ANY cells the type can hold: the reader accepts
    every page (sizes, num_nulls, num_rows, level byte length all agree with the bytes), counts exactly the rows
    written, finds every run tightly framed (`loose = 0`), and null scatter returns exactly the cells — for a
    categorical column the category each code names. -/
theorem written_chunk_decodes (c : ColSpec) (hpt : c.ptype ≤ 7) (cats : List Cell) (pages : List (List Cell))
    (hcats : c.dictItem.isSome → ∀ x ∈ cats, plainOk c.ptype c.typeLength x = true)
    (hok : ∀ p ∈ pages, PageOk c cats.length p) :
    ∃ acc, decodePages (leafOf c) {} (writerChunk c cats pages) = .ok acc ∧
      scatter (leafOf c).maxDef acc.defs acc.vals = pages.flatten.map (render c cats) ∧
      acc.count = pages.flatten.length ∧ acc.loose = 0 ∧ acc.reps = List.replicate pages.flatten.length 0 := by
  rw [decodePages_writerChunk hpt cats pages hcats, written_pages_decode hpt cats pages _ rfl hok]
  exact ⟨_, rfl, by simpa using scatter_pages hok cats, by simp, rfl, by simp⟩

/-- **the writer's layout arithmetic as the code has it now** (REGENERATED from `encode_dict` and `write_column` on every run,
    translated expression by expression to functions over `Int`): the width byte is 8·itemsize, the run header announces
    ⌈n/8⌉ groups, the zero padding completes the last group counted in BYTES (`(groups·8 − n)·itemsize`), and a v1 page ends
    with 8 zero bytes.  `Impl.writerDictData` / `writerPageBody` are built from these regenerated functions, and
    `written_chunk_decodes` is proved through this theorem — so an edit to that arithmetic that changes any value breaks the
    proof obligation of C02 and C01 (not only the byte correspondence). -/
theorem write_layout_now (n item : Nat) :
    PqV.Gen.WriteLayout.recognised = true ∧
    (PqV.Gen.WriteLayout.dictWidthByte item).toNat = item * 8 ∧
    (PqV.Gen.WriteLayout.dictHeader n item).toNat = (n + 7) / 8 * 2 + 1 ∧
    (PqV.Gen.WriteLayout.dictPad n item).toNat = ((n + 7) / 8 * 8 - n) * item ∧
    PqV.Gen.WriteLayout.v1Trailer = 8 :=
  Impl.write_layout_now n item

/-- … and the two level-block layouts of `make_definitions` (REGENERATED likewise): one RLE run `varint(n << 1)` + value byte 1
    for a page without nulls, one bit-packed run `varint(len(out) << 1 | 1)` otherwise, a 4-byte little-endian length prefix
    exactly in v1 pages.  `Impl.writerDefBody` / `writerDefBlock` are built from these functions. -/
theorem def_layout_now (n : Nat) :
    (PqV.Gen.WriteLayout.defRleHeader n).toNat = n * 2 ∧ PqV.Gen.WriteLayout.defRleValue.toNat = 1 ∧
    (PqV.Gen.WriteLayout.defBpHeader n).toNat = n * 2 + 1 ∧ PqV.Gen.WriteLayout.defPrefixBytes = 4 :=
  Impl.def_layout_now n

/-- **the chunk metadata describes the pages present**: the `encodings` list and the `encoding_stats` the writer model
    records (compared with what the real writer records by the `wpage.chunk` correspondence) pass the validator's
    check `encodingsProblem` for every column spec and any number of pages — every page's encoding is listed, every
    (page type, encoding) kind present is counted, with the exact number of pages, data pages of a v2 chunk under
    DATA_PAGE_V2. -/
theorem written_chunk_metadata_describes_pages (c : ColSpec) (cats : List Cell) (pages : List (List Cell)) :
    encodingsProblem (writerEncodings c) (some (writerEncStats c pages.length))
      ((writerChunk c cats pages).map (fun x => (x.1.ptypeTag, x.1.encoding))) = none := by
  rw [chunk_page_kinds, encodingsProblem_none_iff]
  unfold writerEncodings writerEncStats encOf
  generalize (if c.v2 then 3 else 0) = t
  cases c.dictItem.isSome
  · simp [ENC_PLAIN, List.mem_replicate]
  · simp [ENC_PLAIN, ENC_RLE_DICTIONARY, List.mem_replicate, List.filter_cons]

/-- the check is not vacuous: v2 pages counted as DATA_PAGE (what the writer recorded before repair) are refused -/
example : (encodingsProblem [0] (some [(0, 0, 2)]) [(3, 0), (3, 0)]).isSome = true := by decide

/-- for a column that is not dictionary-encoded the reader's cells are literally the writer's cells -/
theorem written_plain_chunk_identity (c : ColSpec) (hd : c.dictItem = none) (cats : List Cell) (cells : List Cell) :
    cells.map (render c cats) = cells :=
  map_render_plain hd cats cells

/-! non-vacuity: an OPTIONAL INT64 column with a null, two v1 pages; a categorical with 2-byte codes under v2 -/
example : PageOk { ptype := PT_INT64, hasNulls := true, v2 := false } 0 [Cell.int 5, Cell.null, Cell.int (2 ^ 64 - 1)] :=
  ⟨by decide, by decide, by decide +kernel⟩
example : PageOk { ptype := PT_BYTE_ARRAY, hasNulls := true, v2 := true, dictItem := some 2 } 300 [Cell.int 299, Cell.null] :=
  ⟨by decide, by decide, by decide +kernel⟩
example : (decodePages (leafOf { ptype := PT_INT64, hasNulls := true, v2 := false }) {}
    (writerChunk { ptype := PT_INT64, hasNulls := true, v2 := false } [] [[Cell.int 5, Cell.null], [Cell.int 7]])).toOption.map
      (fun a => scatter 1 a.defs a.vals) = some [Cell.int 5, Cell.null, Cell.int 7] := by decide +kernel

end writtenChunk

end PqV.Props.C02
