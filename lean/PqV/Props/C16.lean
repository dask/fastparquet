import PqV.Lemmas.Footer
import PqV.Gen.FooterIO
import PqV.Gen.KvMerge
/-!
# C16 — user key-value metadata verbatim; in-place updates touch nothing else

Byte-level model of `update_file_custom_metadata` (`Impl.Footer.rewrite`).  Whether the code
truncates the file after writing the new trailer is REGENERATED from the source
(`Gen.FooterIO.ioOps`, the ordered file-method calls of the function body).
-/
namespace PqV.Props.C16
open PqV.Spec PqV.Impl.Footer

/-- The code as it stands today performs exactly this sequence of file operations
    (regenerated; a reordering, a dropped `truncate`, an extra write all break this). -/
theorem io_sequence :
    PqV.Gen.FooterIO.ioOps = ["seek", "read", "seek", "read", "seek", "write", "write", "write", "truncate"] := by
  decide

/-- hence the model parameter `truncate` is `true` for the current source -/
theorem truncates_now : PqV.Gen.FooterIO.truncates = true := by decide

/-- Every byte before the footer (all data pages; the leading magic) is untouched,
    for any new footer, any size change, with or without truncation. -/
theorem data_prefix_same (tr isMeta : Bool) (f nf : List Nat) (h : footerLoc isMeta f ≤ f.length) :
    (rewrite tr isMeta f nf).take (footerLoc isMeta f) = f.take (footerLoc isMeta f) := by
  unfold rewrite
  cases tr
  · simp only [Bool.false_eq_true, if_false]; exact overlay_take h
  · exact List.take_left' (List.length_take_of_le h)

/-- With truncation the result is strictly framed whatever the change in footer size
    (grow, equal, shrink by 1..7, shrink by ≥ 8). -/
theorem still_valid (isMeta : Bool) (f nf : List Nat) (h : footerLoc isMeta f ≤ f.length) :
    framedStrict (rewrite true isMeta f nf) (footerLoc isMeta f) nf := by
  unfold framedStrict rewrite
  simp only [if_true]
  rw [List.take_left' (List.length_take_of_le h)]; simp [List.append_assoc]

/-- …and for any *sequence* of updates: the invariant "strictly framed at the same `loc`" is
    preserved, because a strictly framed data file recomputes the same `loc`. -/
theorem loc_stable (f nf : List Nat) (loc : Nat) (hl : loc ≤ f.length) (hnf : nf.length < 2 ^ 32)
    (hf : framedStrict f loc nf) : footerLoc false f = loc := by
  unfold framedStrict at hf
  rw [hf, footerLoc_framed _ _ hnf, List.length_take_of_le hl]

/-- Without truncation (the code before the repair) the file is still strictly framed when the
    footer does not shrink … -/
theorem grow_valid_without_truncate (isMeta : Bool) (f nf : List Nat)
    (h : footerLoc isMeta f ≤ f.length) (hg : f.length ≤ footerLoc isMeta f + nf.length + 8) :
    framedStrict (rewrite false isMeta f nf) (footerLoc isMeta f) nf := by
  have e : rewrite false isMeta f nf = rewrite true isMeta f nf := by
    unfold rewrite
    simp only [Bool.false_eq_true, if_false, if_true]
    apply overlay_covers
    simp [List.length_append, leBytes_length, magic_length]; omega
  rw [e]; exact still_valid isMeta f nf h

/-- … but NOT when it shrinks by 1..7 bytes: the last eight bytes are then a mixture of the new
    and the old trailer (the defect repaired by the `fix:` commit).  Witness: a 3-byte footer
    replaced by an empty one; the trailer of the result records a footer length larger than the
    whole file, so no reader can open it. -/
theorem shrink_fails_without_truncate :
    ∃ (f nf : List Nat), footerLoc false f ≤ f.length ∧
      (let g := rewrite false false f nf
       g.length < leNat ((g.drop (g.length - 8)).take 4) + 8) := by
  exact ⟨[9, 9, 1, 2, 3, 3, 0, 0, 0, 0x50, 0x41, 0x52, 0x31], [], by decide, by decide⟩

/-- One update of one key on a footer whose keys are distinct does exactly what the plain map
    specification says: add, replace, or (for `None`) remove that key and leave every other key's
    value unchanged. -/
theorem kv_merge_one (kvm : KV) (u : List Nat × Option (List Nat)) (hnd : (kvm.map (·.1)).Nodup) (k : List Nat) :
    lookup (merge kvm [u]) k = specStep (lookup kvm) u k :=
  merge_one_lookup kvm u hnd k

/-- **a whole update dict** (any number of distinct keys; adds, replacements and removals mixed):
    applying it key by key — with the code's spare key list that is *not* extended when a key is
    added — shows, for every key, exactly what the plain finite-map specification shows. -/
theorem kv_merge_any_update (kvm : KV) (upd : List (List Nat × Option (List Nat))) (hnd : (kvm.map (·.1)).Nodup)
    (hupd : (upd.map (·.1)).Nodup) (k : List Nat) :
    lookup (merge kvm upd) k = (upd.foldl specStep (lookup kvm)) k := by
  simpa [merge] using merge_seq_lookup hupd kvm [] (by simpa using hnd) (by simp) k

example : lookup (merge [([1], [10]), ([2], [20])] [([2], none), ([3], some [30]), ([1], some [11])]) [1] = some [11] := by decide

/-- **any sequence of in-place updates of a data file**: start from a strictly framed file; after
    every rewrite in the sequence (footers of any sizes below 2^32 — growing, equal, shrinking by any
    number of bytes) the file is again strictly framed at the SAME offset with the latest footer, and
    every byte before the footer is what it was at the start. -/
theorem any_update_sequence (nfs : List (List Nat)) (hall : ∀ nf ∈ nfs, nf.length < 2 ^ 32) :
    ∀ (f nf0 : List Nat) (loc : Nat), loc ≤ f.length → nf0.length < 2 ^ 32 → framedStrict f loc nf0 →
      let g := nfs.foldl (rewrite true false) f
      framedStrict g loc (nfs.getLast?.getD nf0) ∧ g.take loc = f.take loc ∧ loc ≤ g.length := by
  induction nfs with
  | nil => intro f nf0 loc hl _ hf; exact ⟨hf, rfl, hl⟩
  | cons nf rest ih =>
    intro f nf0 loc hl hn0 hf
    obtain rfl := loc_stable f nf0 loc hl hn0 hf
    have h1 := still_valid false f nf hl
    have h2 := data_prefix_same true false f nf hl
    have hlen : footerLoc false f ≤ (rewrite true false f nf).length := by
      have := congrArg List.length h2
      simp only [List.length_take] at this
      omega
    have hnf : nf.length < 2 ^ 32 := hall nf List.mem_cons_self
    obtain ⟨a, b, c⟩ := ih (fun x hx => hall x (List.mem_cons_of_mem _ hx)) (rewrite true false f nf) nf _ hlen hnf h1
    simp only [List.foldl_cons]
    refine ⟨?_, by rw [b, h2], c⟩
    rw [List.getLast?_cons, Option.getD_some]
    exact a

example : framedStrict ([1, 2, 3] ++ [9, 9] ++ leBytes 4 2 ++ magic) 3 [9, 9] := by
  unfold framedStrict; decide

/-- the merge loop of `util.update_custom_metadata` as the source has it now (REGENERATED, branch by
    branch): a key found with value `None` is deleted from BOTH parallel lists at its index, a key found
    with a value is replaced by the encoded value, a new key is appended exactly when its value is not
    `None` (an empty value is a value) — the rules `Impl.Footer.mergeStep` models and
    `kv_merge_any_update` is about -/
theorem kv_rules_now :
    PqV.Gen.KvMerge.foundCond = "key_binkvm_keys" ∧ PqV.Gen.KvMerge.removeCond = "valueisNone" ∧
    PqV.Gen.KvMerge.removeStmts = ["delkvm[idx]", "delkvm_keys[idx]"] ∧
    PqV.Gen.KvMerge.replaceStmts = ["kvm[idx]=parquet_thrift.KeyValue(key=key_b,value=ensure_bytes(value))"] ∧
    PqV.Gen.KvMerge.addCond = "valueisnotNone" ∧
    PqV.Gen.KvMerge.addStmts = ["kvm.append(parquet_thrift.KeyValue(key=key_b,value=ensure_bytes(value)))"] := by decide

end PqV.Props.C16
