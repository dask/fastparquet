import PqV.Impl.Merge
import PqV.Impl.Append
import Mathlib.Tactic.Linarith
/-!
# C14 — opening or merging many files yields their concatenation
-/
namespace PqV.Props.C14
open PqV.Impl.Merge PqV.Impl.Append

theorem firstDiff_take (b p : List String) (k0 : Nat) :
    ∃ n, b.take n = p.take n ∧
      (firstDiff b p k0 = some (k0 + n) ∧ n < b.length ∧ n < p.length ∨
       firstDiff b p k0 = none ∧ n = min b.length p.length) := by
  induction b generalizing p k0 with
  | nil => exact ⟨0, rfl, .inr ⟨rfl, (Nat.zero_min _).symm⟩⟩
  | cons x xs ih =>
    obtain _ | ⟨y, ys⟩ := p
    · exact ⟨0, rfl, .inr ⟨rfl, (Nat.min_zero _).symm⟩⟩
    · unfold firstDiff
      split
      · exact ⟨0, rfl, .inl ⟨rfl, Nat.succ_pos _, Nat.succ_pos _⟩⟩
      · rename_i hne
        obtain rfl : x = y := by simpa using hne
        obtain ⟨n, h1, h2⟩ := ih ys (k0 + 1)
        refine ⟨n + 1, by rw [List.take_succ_cons, List.take_succ_cons, h1], ?_⟩
        rcases h2 with ⟨h, hb, hp⟩ | ⟨h, hn⟩
        · exact .inl ⟨by rw [h, Nat.add_right_comm, Nat.add_assoc], Nat.succ_lt_succ hb, Nat.succ_lt_succ hp⟩
        · exact .inr ⟨h, by rw [hn]; exact (Nat.succ_min_succ _ _).symm⟩

theorem take_prefix_of_take_eq {b p : List String} {n m : Nat} (h : b.take n = p.take n)
    (hm : min m b.length ≤ n) : b.take m <+: p := by
  have : b.take m = (b.take n).take (min m b.length) := by
    rw [List.take_take, List.take_eq_take_iff]; omega
  rw [this, h]
  exact (List.take_prefix _ _).trans (List.take_prefix _ _)

theorem step_prefix (base path : List String) (hp : path ≠ []) :
    (step base path) <+: base ∧ (step base path) <+: path ∧ (step base path).length < path.length := by
  have hlen : 0 < path.length := List.length_pos_iff.mpr hp
  obtain ⟨n, hn, ⟨h, hb, hpl⟩ | ⟨h, rfl⟩⟩ := firstDiff_take base path 0
  · simp only [step, h, Nat.zero_add]
    exact ⟨List.take_prefix _ _, take_prefix_of_take_eq hn (Nat.min_le_left _ _), by rw [List.length_take]; omega⟩
  · simp only [step, h]
    exact ⟨List.take_prefix _ _, take_prefix_of_take_eq hn (by omega), by rw [List.length_take]; omega⟩

theorem foldl_step_prefix (paths : List (List String)) (b0 : List String) (hne : ∀ p ∈ paths, p ≠ []) :
    (paths.foldl step b0) <+: b0 ∧ ∀ p ∈ paths, (paths.foldl step b0) <+: p ∧ (paths.foldl step b0).length < p.length := by
  induction paths generalizing b0 with
  | nil => exact ⟨List.prefix_refl _, by simp⟩
  | cons p ps ih =>
    simp only [List.foldl_cons]
    obtain ⟨h1, h2, h3⟩ := step_prefix b0 p (hne p (by simp))
    obtain ⟨i1, i2⟩ := ih (step b0 p) (fun q hq => hne q (List.mem_cons_of_mem _ hq))
    refine ⟨i1.trans h1, ?_⟩
    intro q hq
    rcases List.mem_cons.mp hq with rfl | hq
    · exact ⟨i1.trans h2, by have := i1.length_le; omega⟩
    · exact i2 q hq

/-- The inferred base path is a prefix of every given path, strictly shorter than each (every
    relative path keeps at least its file name), and base ++ relative = the original path. -/
theorem paths_reconstruct (paths : List (List String)) (hne : ∀ p ∈ paths, p ≠ []) :
    let r := analysePaths paths
    (∀ p ∈ paths, r.1 <+: p ∧ r.1.length < p.length) ∧
    (r.2.length = paths.length) ∧
    (∀ i (h1 : i < paths.length) (h2 : i < r.2.length), r.1 ++ r.2[i] = paths[i]) := by
  cases paths with
  | nil => simp [analysePaths]
  | cons p0 ps =>
    simp only [analysePaths]
    obtain ⟨_, hall⟩ := foldl_step_prefix (p0 :: ps) p0.dropLast hne
    refine ⟨hall, by simp, ?_⟩
    intro i h1 h2
    simp only [List.getElem_map]
    exact List.prefix_iff_eq_append.mp (hall _ (List.getElem_mem h1)).1

/-- with an explicit root the same holds, or the call is refused -/
theorem root_reconstruct (root : List String) (paths : List (List String)) (r : List String × List (List String))
    (h : analysePathsRoot root paths = some r) :
    r.1 = root ∧ ∀ i (h1 : i < paths.length) (h2 : i < r.2.length), r.1 ++ r.2[i] = paths[i] := by
  unfold analysePathsRoot at h
  split at h
  · rename_i hall
    injection h with h; subst h
    refine ⟨rfl, ?_⟩
    intro i h1 h2
    simp only [List.getElem_map]
    have := List.all_eq_true.mp hall _ (List.getElem_mem h1)
    have e : (paths[i]).take root.length = root := by simpa using this
    conv_rhs => rw [← List.take_append_drop root.length paths[i]]
    rw [e]
  · cases h

/-- rows: the merged dataset is the concatenation in the given order, the row count is the sum -/
theorem merge_rows (files : List (List Nat)) : (mergeRows files).length = numRows files := by
  simp [mergeRows, numRows, List.length_flatten]

theorem merge_order (a b : List (List Nat)) : mergeRows (a ++ b) = mergeRows a ++ mergeRows b := by
  simp [mergeRows]

/-- categoricals across files: right labels when the dictionaries agree, not otherwise
    (the reader keeps one categories array per output column; same finding as C07) -/
theorem merge_cats_partial (chunks : List CatChunk) (d : List String) (h : ∀ c ∈ chunks, c.dict = d) :
    (chunks.flatMap (·.codes)).map (fun i => ((chunks.getLast?.map (·.dict)).getD [])[i]?) = chunks.flatMap (·.labels) := by
  cases hl : chunks.getLast? with
  | none => rw [List.getLast?_eq_none_iff.mp hl]; rfl
  | some last =>
    rw [Option.map_some, Option.getD_some, h last (List.mem_of_getLast? hl), List.map_flatMap]
    exact congrArg List.flatten (List.map_congr_left fun c hc => by rw [CatChunk.labels, h c hc])

theorem merge_cats_fails : ∃ chunks : List CatChunk, readCats chunks ≠ chunks.flatMap (·.labels) :=
  ⟨[⟨["x", "y"], [0, 1]⟩, ⟨["y", "x"], [0, 1]⟩], by decide⟩

example : analysePaths [["data", "a", "f1"], ["data", "b", "f2"]] = (["data"], [["a", "f1"], ["b", "f2"]]) := by decide
example : analysePaths [["d", "f1"], ["d", "f1", "x"]] = (["d"], [["f1"], ["f1", "x"]]) := by decide

end PqV.Props.C14
