import PqV.Lemmas.Varint
import PqV.Lemmas.Bits
import PqV.Lemmas.KVarint
import PqV.Lemmas.KHybrid
import PqV.Lemmas.KDelta
import PqV.Lemmas.KPlain
import PqV.Lemmas.KDeltaLoop
import PqV.Lemmas.KEncode
/-!
# C11 — primitive codecs agree with the specification on their whole bounded domain

`Spec.*` is the Parquet format specification, `Impl.*` the code-shaped models of `cencoding.pyx` tied to the compiled extension
by the `kern.*` correspondence streams (harness/c11.py).
-/
namespace PqV.Props.C11
open PqV.Spec PqV.Impl

/-- Specification-level varint round trip, any value, any trailing bytes. -/
theorem spec_uvarint_rt (x : Nat) (rest : List Nat) :
    uvarintDec (uvarintEnc x ++ rest) = some (x, rest) := uvarint_rt x rest

/-- Every varint byte is a byte. -/
theorem spec_uvarint_bytes (x : Nat) : ∀ b ∈ uvarintEnc x, b < 256 := uvarintEnc_bytes x

/-- All varint lengths 1..10: a value below 2^(7k) takes at most k bytes; uint64 needs ≤ 10. -/
theorem spec_uvarint_len (x : Nat) (h : x < 2 ^ 64) : uvarintLen x ≤ 10 :=
  uvarintLen_le 10 (by decide) x (Nat.lt_of_lt_of_le h (by decide))

/-- `encode_unsigned_varint` (cencoding.pyx 286-290) emits exactly the ULEB128 bytes. -/
theorem encodeUvarint_refines (x : Nat) (h : x < 2 ^ 64) : encodeUvarint x = uvarintEnc x :=
  encodeUvarint_eq x h

/-- `read_unsigned_var_int` (172-189) decodes every uint64 varint at any buffer position,
    consumes exactly its bytes, never faults (no out-of-range shift, no read past the varint). -/
theorem readUvarint_refines (x : Nat) (hx : x < 2 ^ 64) (pre rest : List Nat) :
    readUvarint (pre ++ uvarintEnc x ++ rest) pre.length = .ok (x, pre.length + uvarintLen x) :=
  readUvarint_at (at_mid pre _ rest) hx

/-- decoder ∘ encoder = id for the code-shaped pair. -/
theorem uvarint_kernel_rt (x : Nat) (hx : x < 2 ^ 64) (pre rest : List Nat) :
    readUvarint (pre ++ encodeUvarint x ++ rest) pre.length = .ok (x, pre.length + uvarintLen x) := by
  rw [encodeUvarint_eq x hx]; exact readUvarint_refines x hx pre rest

theorem spec_zigzag_rt (n : Int) : zigzagDec (zigzagEnc n) = n := zigzag_rt n
theorem spec_zigzag_rt' (u : Nat) : zigzagEnc (zigzagDec u) = u := by
  unfold zigzagDec zigzagEnc
  split <;> split <;> omega

/-- `zigzag_long` (515-516) is the specification's zigzag decode on every uint64. -/
theorem zigzagLong_refines (u : Nat) (h : u < 2 ^ 64) : zigzagLong u = zigzagDec u := zigzagLong_eq u h

/-- `long_zigzag` (519-520) is the specification's zigzag encode on every int64. -/
theorem longZigzag_refines (n : Int) (h1 : -(2 ^ 63 : Int) ≤ n) (h2 : n < (2 ^ 63 : Int)) :
    longZigzag n = zigzagEnc n := longZigzag_eq n ⟨h1, h2⟩

theorem zigzag_kernel_roundtrip (n : Int) (h1 : -(2 ^ 63 : Int) ≤ n) (h2 : n < (2 ^ 63 : Int)) :
    zigzagLong (longZigzag n) = n := by
  rw [longZigzag_eq n ⟨h1, h2⟩, zigzagLong_enc n ⟨h1, h2⟩]

/-- Bit-packing round trip of the specification: every width, every count. -/
theorem spec_bitpack_rt (w : Nat) (vs : List Nat) (h : ∀ v ∈ vs, v < 2 ^ w) :
    unpackLE w vs.length (packLE w vs) = vs := unpackLE_packLE w vs h

theorem spec_bitpack_len (w : Nat) (vs : List Nat) : (packLE w vs).length = (vs.length * w + 7) / 8 :=
  packLE_length w vs

/-- A decoder asked for `n` values yields exactly `n`. -/
theorem spec_unpack_count (w n : Nat) (bs : List Nat) : (unpackLE w n bs).length = n :=
  unpackLE_length w n bs

/-- **`read_bitpacked` (129-169) refines the specification for EVERY bit width up to 24**, any number of
    groups, any buffer position, 32-bit items: it stores the first `groups*8` values of the LSB-first bit
    stream (as many as fit the output), consumes exactly the run's bytes (at least one: the first load is
    unconditional) and never faults.  Widths 25..32 are the known finding (witnesses in Props/C03). -/
theorem readBitpacked_refines (buf : List Nat) (hbytes : ∀ b ∈ buf, b < 256) (ip0 header w : Nat) (o : Out) (hw : w ≤ 24)
    (h0 : ip0 < buf.length) (hbuf : ip0 + (header / 2 * 8 * w + 7) / 8 ≤ buf.length) :
    readBitpacked buf ip0 header w o 4
      = .ok ({ items := o.items ++ (List.range (min (header / 2 * 8) (o.cap / 4))).map (fun i => bitField w i (streamOf buf ip0)),
               cap := o.cap - (min (header / 2 * 8) (o.cap / 4)) * 4 },
             ip0 + max 1 ((header / 2 * 8 * w + 7) / 8)) :=
  readBitpacked_stream buf _ ip0 header w o hw fun i hi => rd_stream buf hbytes ip0 i (by omega)

/-- … and those values are the specification's `unpackLE` of the run's own bytes. -/
theorem readBitpacked_values (buf : List Nat) (ip0 w n m : Nat) (hm : ip0 + m ≤ buf.length) (hnm : n * w ≤ 8 * m) :
    (List.range n).map (fun i => bitField w i (streamOf buf ip0)) = unpackLE w n ((buf.drop ip0).take m) := by
  have h := unpackLE_append w n ((buf.drop ip0).take m) ((buf.drop ip0).drop m) (by simp; omega)
  rwa [List.take_append_drop] at h

/-- **`read_rle` (24-52)** on a run written by any conforming encoder (width ≤ 32): the repeated value,
    clipped to the room left in the output. -/
theorem readRle_refines (p tail : List Nat) (hp : ∀ b ∈ p, b < 256) (ht : ∀ b ∈ tail, b < 256) (w c v header : Nat) (o : Out)
    (hw : w ≤ 32) (hv : v < 2 ^ w) (hh : header / 2 = c) :
    readRle (p ++ leBytes ((w + 7) / 8) v ++ tail) p.length header w o 4
      = .ok ({ items := o.items ++ List.replicate (min c (o.cap / 4)) v, cap := o.cap - (min c (o.cap / 4)) * 4 },
             p.length + (w + 7) / 8) :=
  readRle_at (at_mid p _ tail) c header o hw hv hh

/-- **`read_rle_bit_packed_hybrid` (192-213) equals the specification decoder** on every well-formed
    stream of runs — any mixture of RLE and bit-packed runs, any run lengths — for widths 1..24. -/
theorem readHybrid_refines (w : Nat) (hw1 : 1 ≤ w) (hw : w ≤ 24) (rs : List Run) (pre post : List Nat) (n : Nat)
    (hok : ∀ r ∈ rs, r.wf w = true ∧ RunOk r) (hpre : ∀ b ∈ pre, b < 256) (hpost : ∀ b ∈ post, b < 256)
    (hn : n ≤ (rs.flatMap Run.values).length) :
    ∃ o' loc', readHybrid (pre ++ encodeRuns w rs ++ post) pre.length w (encodeRuns w rs).length { items := [], cap := 4 * n } 4
        = .ok (o', loc') ∧ o'.items = decodeHybrid w n (encodeRuns w rs ++ post) := by
  obtain ⟨o', loc', h1, h2⟩ := readHybrid_runs w hw1 hw rs pre post { items := [], cap := 4 * n } hok
  refine ⟨o', loc', h1, ?_⟩
  rw [h2, decodeHybrid_encodeRuns w n rs post (fun r hr => (hok r hr).1) hn]
  simp

/-- **`delta_read_bitpacked` (216-237) refines the specification for every miniblock width 1..28**, any
    count, any position: the values of the LSB-first bit stream, exactly `⌈count·w/8⌉` bytes consumed,
    no fault.  Widths ≥ 29 are the known finding (witness `delta_bitpacked_29_faults` in Props/C03). -/
theorem deltaReadBitpacked_refines (buf : List Nat) (hbytes : ∀ b ∈ buf, b < 256) (loc0 w n : Nat) (hw1 : 1 ≤ w) (hw : w ≤ 28)
    (hbuf : loc0 + (n * w + 7) / 8 ≤ buf.length) :
    deltaReadBitpacked buf loc0 w n
      = .ok ((List.range n).map (fun i => bitField w i (streamOf buf loc0)), loc0 + (n * w + 7) / 8) :=
  deltaReadBitpacked_stream buf _ loc0 w n hw1 hw fun i hi => rd_stream buf hbytes loc0 i (by omega)

/-- **`read_bitpacked1` (PLAIN booleans, width-1 levels) = specification**: with room for `count`
    items and the `⌈count/8⌉` bytes present, exactly the first `count` bits of the stream are appended -/
theorem readBitpacked1_refines (buf : List Nat) (hbytes : ∀ b ∈ buf, b < 256) (ip count : Nat) (o : Out)
    (hcap : count ≤ o.cap) (hlen : ip + (count + 7) / 8 ≤ buf.length) :
    readBitpacked1 buf ip count o
      = .ok ({ items := o.items ++ unpackNat 1 count (streamOf buf ip), cap := o.cap - count }, ip + (count + 7) / 8) :=
  PqV.Impl.readBitpacked1_refines buf hbytes ip count o hcap hlen

/-- `read_plain_boolean` inverts the specification's boolean packing, whatever follows in the page -/
theorem readPlainBoolean_roundtrip (bits tail : List Nat) (hb : ∀ v ∈ bits, v < 2) (ht : ∀ b ∈ tail, b < 256) :
    readPlainBoolean (packLE 1 bits ++ tail) bits.length = .ok bits :=
  PqV.Impl.readPlainBoolean_roundtrip bits tail hb ht

/-- `unpack_byte_array` inverts `pack_byte_array` (PLAIN BYTE_ARRAY) at any buffer position, for
    any number of items shorter than 2^31 bytes each -/
theorem unpackByteArray_roundtrip (items : List (List Nat)) (hl : ∀ it ∈ items, it.length < 2 ^ 31) (pre tail : List Nat) :
    unpackByteArray (pre ++ packByteArray items ++ tail) pre.length items.length = .ok items :=
  PqV.Impl.unpackByteArray_roundtrip items hl pre tail

/-- the writer's boolean packing (`convert`: pad, reshape(-1, 8)[:, ::-1], packbits) is the
    specification's bit packing of the padded values -/
theorem writerPackBools_is_spec (vals : List Nat) (hb : ∀ v ∈ vals, v < 2) :
    writerPackBools vals = packLE 1 (vals ++ List.replicate (8 - vals.length % 8) 0) :=
  writerPackBools_eq vals hb

/-- **`delta_binary_unpack` (240-283) = `Spec.decodeDelta`** on every stream a conforming writer can
    emit with miniblock bit widths ≤ 28: any block size and miniblock count (values per miniblock a
    multiple of 8, as the format demands), any mixture of widths including 0, INT32 and INT64, any
    count covered by the blocks, at any buffer position, whatever follows the stream.  The kernel
    (header parse, block loop, in-place unpack-then-accumulate j-loops, 64-bit wrapping sums stored at
    item width, early exit) does not fault and its output array holds exactly the specification's
    values.  `encStreamP` is the byte form header ++ blocks, `BlockOk` says each block has `mpb`
    miniblocks of `vpm` deltas below 2^width.  Widths ≥ 29 are the known finding; a count that is
    ≡ 1 modulo the block size makes the kernel read a block header behind the stream (known finding
    C12 delta over-read) and is excluded by `hroom` only when the stream ends there. -/
theorem deltaBinaryUnpack_refines (pre post : List Nat) (longval : Bool) (blockSize mpb cnt : Nat) (first : Int) (blocks : List Block)
    (hbs : blockSize < 2 ^ 64) (hmpb64 : mpb < 2 ^ 64) (hfirst : okI64 first)
    (hmpb : 1 ≤ mpb) (hvpm : 1 ≤ blockSize / mpb) (h8 : blockSize / mpb % 8 = 0) (hcnt1 : 1 ≤ cnt) (hcnt : cnt < 2 ^ 63)
    (hblocks : ∀ b ∈ blocks, BlockOk (blockSize / mpb) mpb b)
    (hroom : cnt ≤ blockSize / mpb * mpb * blocks.length)
    (hbytes : ∀ b ∈ pre ++ encStreamP blockSize mpb cnt first blocks ++ post, b < 256) :
    ∃ vals rest slots loc',
      decodeDelta (if longval then 64 else 32) (encStreamP blockSize mpb cnt first blocks ++ post) = some (vals, rest) ∧
      deltaBinaryUnpack (pre ++ encStreamP blockSize mpb cnt first blocks ++ post) pre.length cnt longval = .ok (slots, loc') ∧
      slots.toList = vals.map (ofSigned (if longval then 64 else 32)) :=
  deltaKernel_eq_spec hbs hmpb64 hfirst hmpb hvpm h8 hcnt1 hcnt hblocks hroom

/-- **`width_from_max_int` (55-61)** = the specification's level / index width for every maximum below 2^63 -/
theorem widthFromMaxInt_refines (n : Nat) (h : n < 2 ^ 63) : widthFromMaxInt (n : Int) = widthFor n := by
  rw [widthFromMaxInt, wrapS_small 64 n (by decide) h, widthLoop_eq 63 0 n h, Nat.zero_add]

/-- **`encode_bitpacked` (293-310) refines the specification's packing** on its whole bounded domain: every width
    0..24 (the `int32` accumulator holds at most 7 pending bits plus one value), any number (< 2^31) of values that fit
    the width.  Output = run header announcing `⌈n/8⌉` groups ++ `packLE w vals` (exactly `⌈n·w/8⌉` bytes: the last group
    is not padded), no fault.  Loop invariant over (`bit`, `bits`, bytes drained) in `Lemmas/KEncode`. -/
theorem encodeBitpacked_refines (w : Nat) (hw : w ≤ 24) (vals : List Nat) (hv : ∀ v ∈ vals, v < 2 ^ w) (hn : vals.length < 2 ^ 31) :
    encodeBitpacked vals w = .ok (uvarintEnc ((vals.length + 7) / 8 * 2 + 1) ++ packLE w vals) :=
  encodeBitpacked_eq w hw vals hv hn

/-- what `encode_bitpacked` writes is read back by the specification whatever follows it: the header announces `⌈n/8⌉`
    groups and the first `n` values of the payload are the input -/
theorem encodeBitpacked_decodes (w : Nat) (hw : w ≤ 24) (vals tail : List Nat) (hv : ∀ v ∈ vals, v < 2 ^ w) (hn : vals.length < 2 ^ 31) :
    ∃ out payload, encodeBitpacked vals w = .ok out ∧
      uvarintDec (out ++ tail) = some ((vals.length + 7) / 8 * 2 + 1, payload) ∧ unpackLE w vals.length payload = vals :=
  PqV.Impl.encodeBitpacked_decodes w hw vals tail hv hn

/-- for whole groups of 8 the kernel's output IS the specification's bit-packed run and the hybrid decoder returns the input -/
theorem encodeBitpacked_whole_groups (w : Nat) (hw : w ≤ 24) (vals tail : List Nat) (hv : ∀ v ∈ vals, v < 2 ^ w) (hn : vals.length < 2 ^ 31)
    (h8 : vals.length % 8 = 0) :
    encodeBitpacked vals w = .ok (encodeRun w (.bp vals)) ∧ decodeHybrid w vals.length (encodeRun w (.bp vals) ++ tail) = vals :=
  PqV.Impl.encodeBitpacked_whole_groups w hw vals tail hv hn h8

-- witnesses: the hypotheses are met by a run of 8 three-bit values; at width 25 the accumulator overflows (the model loses bits)
example : encodeBitpacked [1, 2, 3, 4, 5, 6, 7, 0] 3 = .ok (encodeRun 3 (.bp [1, 2, 3, 4, 5, 6, 7, 0])) := by decide +kernel

-- a block meeting `BlockOk`: 8 values per miniblock, one miniblock per block, width 3
example : BlockOk 8 1 ((-1 : Int), [((3 : Nat), [5, 0, 7, 1, 0, 0, 0, 0])]) :=
  ⟨by unfold okI64; constructor <;> norm_num, rfl, by
    intro m hm
    simp only [List.mem_singleton] at hm
    subst hm
    exact ⟨by norm_num, rfl, (by intro h; cases h), (by decide)⟩⟩

example : unpackByteArray ([9] ++ packByteArray [[1, 2], [], [7]] ++ [0]) 1 3 = .ok [[1, 2], [], [7]] := by decide
example : readPlainBoolean (packLE 1 [1, 0, 1, 1, 0, 0, 0, 1, 1] ++ [255]) 9 = .ok [1, 0, 1, 1, 0, 0, 0, 1, 1] := by decide +kernel
example : ∀ r ∈ [Run.rle 3 5, Run.bp [1, 2, 3, 4, 5, 6, 7, 0]], r.wf 3 = true ∧ RunOk r := by
  intro r hr
  simp only [List.mem_cons, List.mem_nil_iff, or_false] at hr
  rcases hr with rfl | rfl
  · exact ⟨by decide, by simp [RunOk]⟩
  · exact ⟨by decide, by simp [RunOk]⟩
example : (300 : Nat) < 2 ^ 64 := by decide
example : ∀ v ∈ [5, 0, 7, 3], v < 2 ^ 3 := by decide
example : unpackLE 3 4 (packLE 3 [5, 0, 7, 3]) = [5, 0, 7, 3] := by decide

end PqV.Props.C11
