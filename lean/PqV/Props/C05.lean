import PqV.Lemmas.Filter
import PqV.Lemmas.Prune
/-!
# C05 — filtered reads never lose a qualifying row (row-group pruning is sound)

`Gen.Filter` is REGENERATED from `fastparquet/api.py` (`filter_val`, `filter_in`, `filter_not_in`,
`_handle_np_array`) on every run, so these theorems are re-checked against what the code says now.
`sat` is the predicate semantics on a non-null scalar; `inBounds` says the cell lies within the
chunk's recorded min/max (each optional).  Soundness: whenever the interval test says "exclude",
no cell inside the bounds satisfies the condition.
-/
namespace PqV.Props.C05
open PqV.Py PqV.Gen.Filter PqV.Filter

/-- `filter_in` excludes a row group only if no listed value can occur within the bounds. -/
theorem filter_in_sound (vals : List Int) (vmin vmax : Option Int) (x : Int)
    (h : filter_in vals vmin vmax = .ok true) (hb : inBounds vmin vmax x) : vals.contains x = false :=
  PqV.Filter.filter_in_sound vals vmin vmax x h hb

/-- The interval test of every comparison operator and of `in` is sound for pruning. -/
theorem filter_val_sound (op : String) (val : Int) (vals : List Int) (vmin vmax : Option Int) (x : Int)
    (hop : op ∈ ["==", "=", "!=", "<", "<=", ">", ">=", "in"])
    (h : filter_val op val vals vmin vmax = .ok true) (hb : inBounds vmin vmax x) :
    sat op val vals x = false :=
  PqV.Filter.filter_val_sound op val vals vmin vmax x hop h hb

/-- **whole filter programs** (OR of AND groups; statistics and partition values together): the
    code-shaped pruning loop (`filter_out_stats`, `filter_out_cats`, `filter_row_groups`) never drops
    a row group that holds a row satisfying the filter — for every dataset, every statistics layout
    (old / new style fields, missing bounds, missing statistics), every program without `not in`. -/
theorem pruning_loop_sound (rgs : List PqV.Impl.Prune.RowGroup) (dnf : List (List PqV.Impl.Prune.Cond)) (hne : dnf ≠ [])
    (hops : ∀ g ∈ dnf, PqV.Impl.Prune.OpsOk g) (row : PqV.Impl.Prune.Row) (hsat : PqV.Impl.Prune.satDnf row dnf = true)
    (idxs : List Nat) (h : PqV.Impl.Prune.filterRowGroups rgs dnf = .ok idxs)
    (j : Nat) (rg : PqV.Impl.Prune.RowGroup) (hj : rgs[j]? = some rg) (hin : PqV.Impl.Prune.RowIn rg row) : j ∈ idxs := by
  unfold PqV.Impl.Prune.filterRowGroups at h
  simp only [List.isEmpty_eq_false_iff.mpr hne, Bool.false_eq_true, if_false] at h
  simpa using PqV.Impl.Prune.go_mem h hj (PqV.Impl.Prune.keeps_ne_false hin hops hsat)

/-- `not in` is sound when the chunk holds a single value (`vmin = vmax`). -/
theorem filter_not_in_sound_partial (vals : List Int) (v x : Int)
    (h : filter_not_in vals (some v) (some v) = .ok true) (hb : inBounds (some v) (some v) x) :
    (!vals.contains x) = false := by
  have hxv : x = v := Int.le_antisymm (hb.2 v rfl) (hb.1 v rfl)
  simp only [filter_not_in_eq, Option.any_some, Bool.or_self, Except.ok.injEq, Bool.and_eq_true] at h
  simpa [hxv] using h.2

/-- Full-strength `not in` soundness is FALSE of the code as written (known finding C05-not-in,
    pinned by `test_api.py::test_in_filters`): a row group with bounds 5..10 is excluded for
    `not in [5]` although the cell 6 qualifies. -/
theorem filter_not_in_fails :
    ∃ (vals : List Int) (vmin vmax : Option Int) (x : Int),
      filter_val "not in" 0 vals vmin vmax = .ok true ∧ inBounds vmin vmax x ∧ sat "not in" 0 vals x = true := by
  refine ⟨[5], some 5, some 10, 6, by decide, ?_, by decide⟩
  constructor <;> intro m hm <;> injection hm with hm <;> omega

/-- The interval tests never raise on optional integer bounds (no comparison with `None`). -/
theorem filter_val_total (op : String) (val : Int) (vals : List Int) (vmin vmax : Option Int)
    (hop : op ∈ ["==", "=", "!=", "<", "<=", ">", ">=", "not in"]) :
    ∃ b, filter_val op val vals vmin vmax = .ok b :=
  PqV.Filter.filter_val_total op val vals vmin vmax

-- non-vacuity: the hypotheses are met by concrete non-trivial instances
example : filter_val ">" 10 [] (some 1) (some 10) = .ok true := by decide
example : inBounds (some 1) (some 10) 7 := ⟨fun m h => by injection h with h; omega, fun m h => by injection h with h; omega⟩
example : filter_in [3, 12] (some 5) (some 10) = .ok true := by decide
example : filter_in [3, 7] (some 5) (some 10) = .ok false := by decide

end PqV.Props.C05
