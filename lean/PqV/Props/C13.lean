import PqV.Impl.RowFilter
import Mathlib.Tactic.Linarith
import PqV.Gen.ColumnFilterShape
/-!
# C13 — row-level filtering returns exactly the rows that satisfy the predicate
-/
namespace PqV.Props.C13
open PqV.Impl.Prune PqV.Impl.RowFilter

/-! Every accumulator of `_column_filter` is a row-wise function of the frame (`rows.map p`), and each
    step keeps it one: that is the invariant, and it needs no talk of lengths or indices. -/

theorem andPart_spec (isPart : Nat → Bool) (rows : List (List (Option Int))) (g : List Cond)
    (p : List (Option Int) → Bool) :
    andPart isPart rows g (rows.map p)
      = rows.map (fun r => p r && g.all (fun c => isPart c.col || evalCond c r)) := by
  induction g generalizing p with
  | nil => simp [andPart]
  | cons c cs ih =>
    unfold andPart
    split
    · rename_i hp; simp [ih, hp]
    · rename_i hp; simp [ih, hp, Bool.and_assoc]

theorem loop_spec (isPart : Nat → Bool) (rows : List (List (Option Int))) (gs : List (List Cond))
    (o : List (Option Int) → Bool) :
    columnFilterLoop isPart rows gs (rows.map o)
      = rows.map (fun r => o r || gs.any (fun g => g.all (fun c => isPart c.col || evalCond c r))) := by
  induction gs generalizing o with
  | nil => simp [columnFilterLoop]
  | cons g gs ih =>
    unfold columnFilterLoop
    rw [← List.map_const', andPart_spec, List.zipWith_map, List.zipWith_self, ih]
    simp [Bool.or_assoc]

/-- The evaluation loops of `_column_filter` compute, row by row, the OR over groups of the AND over
    conditions (conditions on partition columns are skipped at row level), a flat list being one
    AND group. -/
theorem column_filter_dnf (isPart : Nat → Bool) (f : Filt) (rows : List (List (Option Int))) :
    columnFilter isPart f rows
      = rows.map (fun r => (normalise f).any (fun g => g.all (fun c => isPart c.col || evalCond c r))) := by
  unfold columnFilter
  rw [← List.map_const', loop_spec]
  simp

/-- a flat list means AND -/
theorem flat_is_and (isPart : Nat → Bool) (l : List Cond) (hne : l ≠ []) (rows : List (List (Option Int))) :
    columnFilter isPart (.flat l) rows = rows.map (fun r => l.all (fun c => isPart c.col || evalCond c r)) := by
  rw [column_filter_dnf]
  cases l with
  | nil => exact absurd rfl hne
  | cons a t => simp [normalise]

/-- Without partition conditions the selection is exactly the rows that satisfy the predicate
    (pandas cell semantics): the documented meaning. -/
theorem row_filter_exact_partial (f : Filt) (rows : List (List (Option Int))) :
    columnFilter (fun _ => false) f rows
      = rows.map (fun r => (normalise f).any (fun g => g.all (fun c => evalCond c r))) := by
  rw [column_filter_dnf]; simp

/-- BEFORE THE REPAIR (the model with partition conditions skipped): the full statement ("conditions on partition
    columns are honoured exactly") was FALSE at row level inside OR groups: the partition term was dropped (fixed finding).  Witness: one row whose
    partition value fails the first group's partition condition is still selected. -/
theorem or_partition_fails :
    ∃ (f : Filt) (rows : List (List (Option Int))),
      columnFilter (fun c => c == 0) f rows
        ≠ rows.map (fun r => (normalise f).any (fun g => g.all (fun c => evalCond c r))) := by
  refine ⟨.nested [[⟨0, "==", 1, []⟩, ⟨1, ">", 5, []⟩], [⟨1, "<", 0, []⟩]], [[some 2, some 7]], by decide⟩

theorem andPartRG_eq {isPart : Nat → Bool} {rgSat : Nat → Cond → Bool} {sizes : List Nat} {rows : List (List (Option Int))}
    (hpart : ∀ c : Cond, isPart c.col = true → partitionTerm rgSat sizes c = rows.map (evalCond c)) (g : List Cond) (acc : List Bool) :
    andPartRG isPart rgSat sizes rows g acc = andPart (fun _ => false) rows g acc := by
  induction g generalizing acc with
  | nil => rfl
  | cons c cs ih =>
    simp only [andPartRG, andPart, Bool.false_eq_true, if_false]
    split
    · rename_i hp
      rw [hpart c hp, ih]
    · rw [ih]

theorem loopRG_eq {isPart : Nat → Bool} {rgSat : Nat → Cond → Bool} {sizes : List Nat} {rows : List (List (Option Int))}
    (hpart : ∀ c : Cond, isPart c.col = true → partitionTerm rgSat sizes c = rows.map (evalCond c)) (gs : List (List Cond)) (out : List Bool) :
    columnFilterLoopRG isPart rgSat sizes rows gs out = columnFilterLoop (fun _ => false) rows gs out := by
  induction gs generalizing out with
  | nil => rfl
  | cons g gs ih =>
    simp only [columnFilterLoopRG, columnFilterLoop]
    rw [andPartRG_eq hpart, ih]

/-- **row-level filtering is exact, partition conditions included** (the code as repaired: `_column_filter` no longer skips
    a condition on a partition column but ANDs / ORs in `_partition_term`, one flag per row group from the pruning's own test,
    repeated over the row group's rows).  Provided that flag is the condition's truth value on every row of the row group —
    which is what directory partitioning gives (all rows of a row group carry the directory's key, C08 `group_key`) together
    with the pruning test being exact on a single value (C05 `filter_val_sound` at min = max) — the selection is, row by
    row, the OR over groups of the AND over ALL conditions of the group, a flat list being one AND group. -/
theorem row_filter_exact (isPart : Nat → Bool) (rgSat : Nat → Cond → Bool) (sizes : List Nat) (f : Filt)
    (rows : List (List (Option Int)))
    (hpart : ∀ c : Cond, isPart c.col = true → partitionTerm rgSat sizes c = rows.map (evalCond c)) :
    columnFilterRG isPart rgSat sizes f rows
      = rows.map (fun r => (normalise f).any (fun g => g.all (fun c => evalCond c r))) := by
  unfold columnFilterRG
  rw [loopRG_eq hpart]
  exact row_filter_exact_partial f rows

/-- the hypothesis is satisfiable and the statement not vacuous: two row groups (partition value 1, then 2), the OR of
    `p == 1 ∧ x > 5` and `x < 0` — the row of partition 2 with x = 7, which the code returned before the repair
    (`or_partition_fails`), is not selected -/
example :
    columnFilterRG (fun c => c == 0) (fun i c => evalCond c [some (Int.ofNat (i + 1)), none]) [1, 1]
      (.nested [[⟨0, "==", 1, []⟩, ⟨1, ">", 5, []⟩], [⟨1, "<", 0, []⟩]]) [[some 1, some 7], [some 2, some 7]]
      = [true, false] := by decide

theorem sliceSel_flatten (sizes : List Nat) (sel : List Bool) (h : sizes.sum = sel.length) :
    (sliceSel sizes sel).flatten = sel := by
  induction sizes generalizing sel with
  | nil => rw [List.eq_nil_of_length_eq_zero h.symm]; rfl
  | cons n rest ih =>
    simp only [sliceSel, List.flatten_cons]
    have : rest.sum = (sel.drop n).length := by rw [List.sum_cons] at h; rw [List.length_drop]; omega
    rw [ih _ this, List.take_append_drop]

@[simp] theorem keep_nil {α} (sel : List Bool) : keep ([] : List α) sel = [] := rfl

@[simp] theorem keep_cons {α} (a : α) (l : List α) (s : Bool) (ss : List Bool) :
    keep (a :: l) (s :: ss) = if s then a :: keep l ss else keep l ss := by
  cases s <;> simp [keep]

theorem selectPage_eq {α} (defi : List Bool) (vals : List α) (sel : List Bool) :
    selectPage defi vals sel = (keep defi sel, keep vals (keep sel defi)) := rfl

theorem keep_append {α} (a b : List α) (sel : List Bool) :
    keep (a ++ b) sel = keep a (sel.take a.length) ++ keep b (sel.drop a.length) := by
  induction a generalizing sel with
  | nil => simp [keep]
  | cons x a ih =>
    obtain _ | ⟨s, ss⟩ := sel
    · simp [keep]
    · cases s <;> simp [ih]

/-- Applying the selection slice by slice (per row group in `to_pandas`, per page in `read_col`) and
    concatenating is the same as applying the whole selection to the concatenation. -/
theorem mask_pages {α} (pages : List (List α)) (sel : List Bool) (h : (pages.map List.length).sum = sel.length) :
    ((pages.zip (sliceSel (pages.map List.length) sel)).map (fun p => keep p.1 p.2)).flatten
      = keep pages.flatten sel := by
  clear h
  induction pages generalizing sel with
  | nil => rfl
  | cons p ps ih =>
    simp only [List.map_cons, sliceSel, List.zip_cons_cons, List.flatten_cons]
    rw [ih, keep_append]

/-- Inside a page, filtering the level array and the value array separately (as `read_col` does)
    and scattering back gives exactly the selected rows of the page, nulls included. -/
theorem select_page_exact {α} (defi : List Bool) (vals : List α) (sel : List Bool)
    (hv : vals.length = (defi.filter id).length) (hs : sel.length = defi.length) :
    assemble (selectPage defi vals sel).1 (selectPage defi vals sel).2 = keep (assemble defi vals) sel := by
  rw [selectPage_eq]
  clear hv hs
  induction defi generalizing vals sel with
  | nil => simp [assemble]
  | cons d ds ih =>
    obtain _ | ⟨s, ss⟩ := sel
    · simp [keep, assemble]
    · cases d
      · cases s <;> simp [assemble, ih]
      · obtain _ | ⟨v, vs⟩ := vals
        · cases s <;> simpa [assemble] using ih [] ss
        · cases s <;> simp [assemble, ih]

/-- the filtered row count is the number of selected rows -/
theorem count_is_length {α} (l : List α) (sel : List Bool) (h : l.length = sel.length) :
    (keep l sel).length = (sel.filter id).length := by
  calc (keep l sel).length = (((l.zip sel).map Prod.snd).filter id).length := by
        rw [keep, List.filter_map, List.length_map, List.length_map]; rfl
    _ = _ := by rw [List.map_snd_zip (Nat.le_of_eq h.symm)]

example : columnFilter (fun _ => false) (.flat [⟨0, ">", 1, []⟩, ⟨1, ">", 2, []⟩]) [[some 5, some 0], [some 5, some 9]]
    = [false, true] := by decide

/-- the control skeleton of `ParquetFile._column_filter` as the source has it now (REGENERATED), which
    `Impl.RowFilter.columnFilter` and `column_filter_dnf` assume: a flat list of conditions is one AND
    group; the result starts all-false; every AND group gets its OWN all-true accumulator, conditions
    are AND-ed into it and the group is OR-ed into the result; a condition on a partition column is
    evaluated per row group (`_partition_term`: the pruning's test once per row group, repeated over its rows) and merged with
    the group's own operator before the `continue`, in both branches -/
theorem column_filter_shape_now :
    PqV.Gen.ColumnFilterShape.flatListIsOneAndGroup = true ∧ PqV.Gen.ColumnFilterShape.resultStartsAllFalse = true ∧
    PqV.Gen.ColumnFilterShape.andAccumulatorPerGroup = true ∧
    PqV.Gen.ColumnFilterShape.skipPartitionInSingle = "rowgroup-term:BitOr" ∧
    PqV.Gen.ColumnFilterShape.skipPartitionInGroup = "rowgroup-term:BitAnd" ∧
    PqV.Gen.ColumnFilterShape.partitionTerm = "pruning-test-per-row-group" ∧
    PqV.Gen.ColumnFilterShape.groupMerges = ["out|=and_part"] ∧ PqV.Gen.ColumnFilterShape.innerOps = ["BitAnd"] ∧
    PqV.Gen.ColumnFilterShape.singleOps = ["BitOr"] := ⟨rfl, rfl, rfl, rfl, rfl, rfl, rfl, rfl, rfl⟩

end PqV.Props.C13
