import PqV.Lemmas.Assemble
import PqV.Gen.SchemaLevels
/-!
# C15 — LIST and MAP columns are assembled into the right per-row lists and dicts

`Spec.assemble` is standard record assembly (the oracle of harness/c15.py, also used by the
Lean reader that certifies the nested test files); `Impl.Assemble` is the code-shaped model of
`_assemble_objects` and of `read_col`'s page chaining, tied to the compiled kernel by the
`nested.impl` correspondence stream and to core.py by the regenerated `Gen.Nested` constants.
-/
namespace PqV.Props.C15
open PqV.Spec PqV.Impl.Assemble

/-- **what record assembly means**: shredding any list of rows (null rows, empty collections, null
    elements, any lengths) and assembling the entries gives the rows back, in order. -/
theorem assemble_inverts_shredding (o maxDef : Nat) (h : o < maxDef) (rows : List Row)
    (hok : ∀ r ∈ rows, r.ok o maxDef = true) :
    assemble o (encodeRows o maxDef rows) = rows := by
  have := foldl_encodeRows h hok []
  simpa [assemble] using this

/-- **page boundaries anywhere** (also inside a row): assembling the concatenation of two pages is
    continuing the assembly of the first page with the entries of the second. -/
theorem pages_compose (o : Nat) (p1 p2 : List Entry) :
    assemble o (p1 ++ p2) = p2.foldl (pushEntry o) (assemble o p1) := by
  simp [assemble, List.foldl_append]

/-- the regenerated call-site facts the model relies on hold for the current source:
    the row index advances by the records a page starts, and the MAP key leaf is found by its name -/
theorem chain_by_started_records_now : PqV.Gen.Nested.chainByZeros = true := by decide
theorem map_key_by_leaf_name_now : PqV.Gen.Nested.keyByLeafName = true := by decide
/-- the translator recognised the statements these two facts are read from (it fails soft so that the driver keeps building) -/
theorem nested_facts_recognised_now : PqV.Gen.Nested.recognised = true := by decide

/-- **whole-row pages** (any number of pages, cut at row starts; both chaining rules): the model of
    `read_col` + `_assemble_objects` stores exactly the rows, in order. -/
theorem pages_of_whole_rows {o maxDef : Nat} {null : Bool} (h : Sch o maxDef null) (pages : List (List Row))
    (hp : ∀ p ∈ pages, p ≠ [] ∧ ∀ r ∈ p, r.ok o maxDef = true) :
    readChunk pages.flatten.length null maxDef (pages.map (pageOf o maxDef)) = .ok pages.flatten := by
  obtain ⟨h1, h2, h3⟩ := wholeRows pages [] hp
  have := readChunk_refines_partial h (.inr (by simpa using fun p hp' => (hp p hp').1)) h1
  rw [h2, h3, assemble_inverts_shredding o maxDef h.md _ (by simpa using fun r p hp' hr => (hp p hp').2 r hr), List.map_map] at this
  exact this

/-- **pages cut anywhere — partial**: whenever every continuation that opens a page carries at
    least one value (`PagesOk`), the model returns exactly record assembly of the whole entry
    stream.  The excluded case is the known finding, `continuation_without_value_fails` below. -/
theorem model_refines_assembly_partial {o maxDef : Nat} {null : Bool} (h : Sch o maxDef null) (pages : List Page)
    (hok : PagesOk o maxDef [] pages) :
    readChunk (newRows pages) null maxDef (pages.map (gpageOf o maxDef))
      = .ok (assemble o (pages.flatMap (·.entries o maxDef))) :=
  readChunk_refines_partial h (.inl chain_by_started_records_now) hok

example : Sch 1 3 true := ⟨by decide, by decide, by decide⟩
example : PagesOk 1 3 [] [⟨[], [Row.list [Cell.int 5, Cell.null]]⟩, ⟨[Cell.null, Cell.int 6], [Row.none, Row.list []]⟩] := by
  refine ⟨Or.inl ⟨rfl, by simp⟩, by simp, by decide, Or.inr ⟨by decide, [], [Cell.int 5, Cell.null], by simp [joinPage, extendLast_nil]⟩, ?_, by decide, trivial⟩
  intro c hc; intro hcn; decide
example : ∀ r ∈ [Row.none, Row.list [], Row.list [Cell.int 1, Cell.null]], r.ok 1 3 = true := by decide
example : assemble 1 (encodeRows 1 3 [Row.none, Row.list [], Row.list [Cell.int 1, Cell.null]])
    = [Row.none, Row.list [], Row.list [Cell.int 1, Cell.null]] := by decide

def rowsOf : A (List Row) → Option (List Row)
  | .ok r => some r
  | .error _ => none

/-- a row split across two pages is put back together when the continuation carries a value … -/
theorem continuation_with_value_ok :
    rowsOf (readChunk 2 true 3 [([(3, 0), (2, 1)], [Cell.int 5]), ([(3, 1), (3, 0)], [Cell.int 6, Cell.int 7])])
      = some [Row.list [Cell.int 5, Cell.null, Cell.int 6], Row.list [Cell.int 7]] := by decide

/-- … but NOT when it carries only null elements (known finding C15-continuation-without-value):
    the model of `_assemble_objects` moves the null into the next row, record assembly does not. -/
theorem continuation_without_value_fails :
    rowsOf (readChunk 2 true 3 [([(3, 0)], [Cell.int 5]), ([(2, 1), (3, 0)], [Cell.int 7])])
      = some [Row.list [Cell.int 5], Row.list [Cell.null, Cell.int 7]] ∧
    assemble 1 (entries 3 [3, 2, 3] [0, 1, 0] [Cell.int 5, Cell.int 7])
      = [Row.list [Cell.int 5, Cell.null], Row.list [Cell.int 7]] := by decide

/-- with the repaired chaining a page that only continues a row no longer shifts later rows … -/
theorem page_only_continuation_ok :
    rowsOf (readChunk 2 true 2 [([(2, 0)], [Cell.int 1]), ([(2, 1)], [Cell.int 2]), ([(2, 0)], [Cell.int 3])])
      = some [Row.list [Cell.int 1, Cell.int 2], Row.list [Cell.int 3]] := by decide

section schemaLevels
open PqV.Gen.SchemaLevels

/-- the three repetition-type tests of `SchemaHelper` as the source has them now (REGENERATED):
    every non-REQUIRED element makes a path not required and adds a definition level, exactly the
    REPEATED elements add a repetition level -/
theorem level_tests_now : recognised = true ∧ ∀ rt, rt < 3 →
    reqTest rt = decide (rt ≠ 0) ∧ defTest rt = decide (rt ≠ 0) ∧ repTest rt = decide (rt = 2) := by decide

/-- **definition levels are skipped exactly when there are none**: `is_required(path)` (which makes
    `read_def` skip the level block of a v1 page) holds iff the path's maximum definition level is 0 —
    for every path, in particular for REQUIRED lists of REQUIRED elements, whose REPEATED ancestor
    carries a definition level. -/
theorem required_iff_no_definition_levels (path : List Nat) : isRequired path = decide (maxDef path = 0) := by
  rw [Bool.eq_iff_iff]
  simp [isRequired, maxDef, List.filter_eq_nil_iff, reqTest, defTest]

/-- repetition levels never exceed definition levels (every REPEATED element is non-REQUIRED) -/
theorem maxRep_le_maxDef (path : List Nat) : maxRep path ≤ maxDef path := by
  rw [maxRep, maxDef, ← List.countP_eq_length_filter, ← List.countP_eq_length_filter]
  refine List.countP_mono_left fun rt _ h => ?_
  rw [repTest, beq_iff_eq] at h
  subst h; rfl

example : isRequired [0, 2, 0] = false ∧ maxDef [0, 2, 0] = 1 ∧ maxRep [0, 2, 0] = 1 := by decide

end schemaLevels

end PqV.Props.C15
