import PqV.Impl.Access
import PqV.Gen.Access
import Mathlib.Tactic.Linarith
import PqV.Lemmas.Access
import PqV.Gen.HandleState
/-!
# C06 — every partial read agrees with the corresponding part of the full read
-/
namespace PqV.Props.C06
open PqV.Impl.Access

theorem total_cons (rg : RG) (rest : List RG) : total (rg :: rest) = rg.length + total rest := by
  simp [total]

theorem place_at (pre mid suf : List (Option Nat)) (rows : RG) (h : mid.length = rows.length) :
    place (pre ++ mid ++ suf) pre.length rows = pre ++ rows.map some ++ suf := by
  simp [place, List.drop_append, ← h]

/-- Writing each row group's rows at the running offset of a pre-allocated buffer is
    concatenation: the general form with an already filled prefix. -/
theorem fill_prefix (rgs : List RG) (pre : List (Option Nat)) (suffix : List (Option Nat)) :
    fill rgs pre.length (pre ++ List.replicate (total rgs) none ++ suffix)
      = pre ++ rgs.flatten.map some ++ suffix := by
  induction rgs generalizing pre with
  | nil => simp [fill, total]
  | cons rg rest ih =>
    have := ih (pre ++ rg.map some)
    rw [List.length_append, List.length_map] at this
    rw [fill, total_cons, ← List.replicate_append_replicate, ← List.append_assoc pre, List.append_assoc _ _ suffix,
      place_at _ _ _ _ List.length_replicate, ← List.append_assoc, this]
    simp

/-- `to_pandas()` returns the rows of the row groups in order, nothing unassigned. -/
theorem buffer_is_concat (rgs : List RG) : toPandas rgs = rgs.flatten.map some := by
  have := fill_prefix rgs [] []
  simpa [toPandas] using this

/-- A sliced or picked handle reads exactly the rows of the selected row groups, in the selected
    order (the selection itself is ordinary list slicing). -/
theorem slice_read (rgs : List RG) (start stop : Option Int) (step : Int) :
    toPandas (getSlice rgs start stop step) = (getSlice rgs start stop step).flatten.map some :=
  buffer_is_concat _

/-- iteration row group by row group, concatenated, is the full read (empty frames dropped) -/
theorem iter_concat (rgs : List RG) : (iterRowGroups rgs).flatten = toPandas rgs := by
  induction rgs with
  | nil => rfl
  | cons rg rest ih =>
    simp only [iterRowGroups, List.map_cons, List.filter_cons, buffer_is_concat, List.flatten_cons,
      List.flatten_nil, List.append_nil, List.map_append] at ih ⊢
    cases rg with
    | nil => simpa using ih
    | cons a t => simp [ih]

/-- reported counts equal the number of rows read, for any handle (slices included) -/
theorem counts_agree (rgs : List RG) : (toPandas rgs).length = count rgs := by
  rw [buffer_is_concat, List.length_map, List.length_flatten]
  rfl

theorem headTake_spec (rgs : List RG) (n : Nat) :
    ((rgs.take (headTake rgs n)).flatten).take n = rgs.flatten.take n := by
  induction rgs generalizing n with
  | nil => simp [headTake]
  | cons rg rest ih =>
    simp only [headTake]
    split
    · rename_i h
      simp only [List.take_succ_cons, List.take_zero, List.flatten_cons, List.flatten_nil, List.append_nil]
      rw [List.take_append_of_le_length h]
    · rw [show 1 + headTake rest (n - rg.length) = headTake rest (n - rg.length) + 1 by omega]
      simp only [List.take_succ_cons, List.flatten_cons]
      rw [List.take_append, List.take_append, ih (n - rg.length)]

/-- `head(n)` returns the first `n` rows of the full read, for every `n` (0, exact row-group
    boundaries, more than the dataset holds), on a dataset with at least one row group. -/
theorem head_correct (initI : Bool) (rgs : List RG) (n : Nat) (h : rgs ≠ []) :
    head initI rgs n = some ((toPandas rgs).take n) := by
  cases rgs with
  | nil => exact absurd rfl h
  | cons rg rest =>
    simp only [head, buffer_is_concat]
    rw [← List.map_take, ← List.map_take, headTake_spec]

/-- on a dataset with zero row groups `head` must return the (empty) full read; as originally
    written it raised UnboundLocalError (repaired) -/
theorem head_empty (n : Nat) : head true [] n = some ((toPandas []).take n) := by
  simp [head, toPandas, fill, total]

/-- the current source binds the loop index before the loop (regenerated from `ParquetFile.head`) -/
theorem head_initialised_now : PqV.Gen.Access.headInitialisesI = true := by decide

theorem head_empty_fails_uninitialised (n : Nat) : head false [] n = none := rfl

example : head true [[1, 2], [3], [4, 5, 6]] 4 = some [some 1, some 2, some 3, some 4] := by decide

/-- a forward slice keeps the order of the dataset: the selected row groups are a sub-sequence -/
theorem forward_slice_sublist (rgs : List RG) (a b : Option Int) (k : Int) (hk : 0 < k) :
    (getSlice rgs a b k).Sublist rgs := by
  simp only [getSlice, pySliceIdx, hk, if_true]
  refine (List.Sublist.filterMap (fun i => rgs[i]?) List.filter_sublist).trans ?_
  rw [range_filterMap_getElem]
  exact List.Sublist.refl _

/-- **every access program reads whole row groups of the dataset**: after any chain of slices and
    picks that does not raise, each row group of the resulting handle is a row group of the original
    dataset, and what the handle reads is exactly those row groups' rows, in the handle's order. -/
theorem program_reads_whole_row_groups (rgs : List RG) (sels : List Sel) (out : List RG) (h : runSels rgs sels = some out) :
    (∀ rg ∈ out, rg ∈ rgs) ∧ toPandas out = out.flatten.map some :=
  ⟨runSels_mem h, buffer_is_concat out⟩

example : runSels [[1, 2], [3], [4, 5, 6], [7]] [.slice (some 1) none 1, .slice none none (-1), .pick 0] = some [[7]] := by decide

/-- the state a derived handle (`pf[i]`, `pf[a:b]`, hence `head` / `iter_row_groups`) and a pickled or
    copied handle take over from their source, as the source has it now (REGENERATED): file name, opener,
    metadata (the sliced copy for a derived handle), the nulls policy, the RESOLVED dtypes of the parent
    (`_base_dtype`: a slice must not re-derive them from its own row groups only), the time-zone map and
    the column-index dtype — the same seven entries on both paths -/
theorem handle_state_now :
    PqV.Gen.HandleState.pickled = ["fn=self.fn", "open=self.open", "fmd=self.fmd", "pandas_nulls=self.pandas_nulls",
      "_base_dtype=self._base_dtype", "tz=self.tz", "_columns_dtype=self._columns_dtype"] ∧
    PqV.Gen.HandleState.derived = ["fn=self.fn", "open=self.open", "fmd=fmd", "pandas_nulls=self.pandas_nulls",
      "_base_dtype=self._base_dtype", "tz=self.tz", "_columns_dtype=self._columns_dtype"] := ⟨rfl, rfl⟩

end PqV.Props.C06
