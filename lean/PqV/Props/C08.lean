import PqV.Impl.Partition
import Mathlib.Tactic.Linarith
/-!
# C08 — directory-partitioned write/read preserves every row and every partition value
-/
namespace PqV.Props.C08
open PqV.Impl.Partition

theorem mem_insertKey (k x : Nat) (l : List Nat) : x ∈ insertKey k l ↔ x = k ∨ x ∈ l := by
  induction l with
  | nil => simp [insertKey]
  | cons y ys ih =>
    simp only [insertKey]
    split
    · simp
    · split
      · rename_i h1 h2; subst h2; simp
      · simp only [List.mem_cons, ih]; exact or_left_comm

theorem keysOf_cons (r : Row) (rs : List Row) :
    keysOf (r :: rs) = match r.2 with | some k => insertKey k (keysOf rs) | none => keysOf rs := rfl

theorem mem_keysOf (rows : List Row) (k : Nat) : k ∈ keysOf rows ↔ ∃ r ∈ rows, r.2 = some k := by
  induction rows with
  | nil => simp [keysOf]
  | cons r rs ih =>
    rw [keysOf_cons]
    cases hr : r.2 with
    | none => simp [ih, hr]
    | some k' => simp [mem_insertKey, ih, hr, eq_comm]

theorem sorted_insertKey (k : Nat) (l : List Nat) (h : l.Pairwise (· < ·)) : (insertKey k l).Pairwise (· < ·) := by
  induction l with
  | nil => simp [insertKey]
  | cons y ys ih =>
    simp only [insertKey]
    rw [List.pairwise_cons] at h
    split
    · rename_i hlt
      refine List.pairwise_cons.mpr ⟨?_, List.pairwise_cons.mpr h⟩
      intro z hz
      rcases List.mem_cons.mp hz with rfl | hz
      · exact hlt
      · exact Nat.lt_trans hlt (h.1 z hz)
    · split
      · exact List.pairwise_cons.mpr h
      · rename_i h1 h2
        refine List.pairwise_cons.mpr ⟨?_, ih h.2⟩
        intro z hz
        rcases (mem_insertKey k z ys).mp hz with rfl | hz
        · omega
        · exact h.1 z hz

/-- groups are written in strictly increasing key order (so no key appears twice) -/
theorem keys_sorted (rows : List Row) : (keysOf rows).Pairwise (· < ·) := by
  induction rows with
  | nil => simp [keysOf]
  | cons r rs ih =>
    rw [keysOf_cons]
    cases r.2 with
    | none => exact ih
    | some k => exact sorted_insertKey k _ ih

theorem mem_groups {rows : List Row} {k : Nat} {g : List Nat} :
    (k, g) ∈ groups rows ↔ k ∈ keysOf rows ∧ g = (rows.filter (fun r => r.2 == some k)).map (·.1) := by
  simp only [groups, List.mem_map, Prod.mk.injEq]
  constructor
  · rintro ⟨_, hk, rfl, rfl⟩; exact ⟨hk, rfl⟩
  · rintro ⟨hk, rfl⟩; exact ⟨k, hk, rfl, rfl⟩

/-- every row of a group carries the group's key: a row is stored in the directory named by its
    key values … -/
theorem group_key (rows : List Row) (k : Nat) (g : List Nat) (h : (k, g) ∈ groups rows) :
    ∀ id ∈ g, ∃ r ∈ rows, r.1 = id ∧ r.2 = some k := by
  obtain ⟨_, rfl⟩ := mem_groups.mp h
  intro id hid
  simp only [List.mem_map, List.mem_filter] at hid
  obtain ⟨r, ⟨hr, hkey⟩, rfl⟩ := hid
  exact ⟨r, hr, rfl, by simpa using hkey⟩

/-- … and nowhere else: the group of key `k` holds exactly the rows with that key, in their
    original order, with their multiplicity. -/
theorem group_exact (rows : List Row) (k : Nat) (hk : ∃ r ∈ rows, r.2 = some k) :
    (k, (rows.filter (fun r => r.2 == some k)).map (·.1)) ∈ groups rows := mem_groups.mpr ⟨(mem_keysOf rows k).mpr hk, rfl⟩

/-- no empty group is written -/
theorem groups_nonempty (rows : List Row) (k : Nat) (g : List Nat) (h : (k, g) ∈ groups rows) : g ≠ [] := by
  obtain ⟨hk, rfl⟩ := mem_groups.mp h
  obtain ⟨r, hr, hkey⟩ := (mem_keysOf rows k).mp hk
  exact List.ne_nil_of_mem (List.mem_map_of_mem (List.mem_filter.mpr ⟨hr, by simp [hkey]⟩))

theorem length_filter_or {α} (p q : α → Bool) (l : List α) (h : ∀ a ∈ l, p a = true → q a = false) :
    (l.filter p).length + (l.filter q).length = (l.filter fun a => p a || q a).length := by
  induction l with
  | nil => rfl
  | cons a l ih =>
    have ih := ih fun b hb => h b (List.mem_cons_of_mem _ hb)
    have ha := h a List.mem_cons_self
    simp only [List.filter_cons]
    cases hp : p a
    · cases hq : q a <;> simp only [Bool.or_false, Bool.or_true, Bool.false_eq_true, if_false, if_true, List.length_cons, ← ih]
      omega
    · simp only [ha hp, Bool.or_false, Bool.false_eq_true, if_false, if_true, List.length_cons, ← ih]; omega

theorem sum_length_fibres {α κ} [BEq κ] [LawfulBEq κ] (key : α → κ) (l : List α) (ks : List κ) (hs : ks.Nodup) :
    (ks.map fun k => (l.filter fun a => key a == k).length).sum = (l.filter fun a => ks.contains (key a)).length := by
  induction ks with
  | nil => exact (List.length_eq_zero_iff.mpr (List.filter_eq_nil_iff.mpr (by simp))).symm
  | cons k ks ih =>
    rw [List.nodup_cons] at hs
    rw [List.map_cons, List.sum_cons, ih hs.2, length_filter_or]
    · simp
    · intro a _ ha; rw [beq_iff_eq] at ha; simpa [ha] using hs.1

/-- No row is lost or duplicated: the number of rows written equals the number of rows whose key
    is non-null (with `group_key`/`group_exact`: each exactly once, in its own directory). -/
theorem rows_conserved (rows : List Row) :
    ((groups rows).map (fun g => g.2.length)).sum = (rows.filter (fun r => r.2.isSome)).length := by
  have := sum_length_fibres (·.2) rows ((keysOf rows).map some)
    ((keys_sorted rows).map some fun a b hab => by simpa using Nat.ne_of_lt hab)
  simp only [groups, List.map_map, Function.comp_def, List.length_map] at this ⊢
  rw [this]
  congr 1
  apply List.filter_congr
  intro r hr
  cases hk : r.2 with
  | none => simp
  | some k => simpa using (mem_keysOf rows k).mpr ⟨r, hr, hk⟩

theorem splitOn_ne_nil (sep : Char) (l : List Char) : splitOn sep l ≠ [] := by
  induction l with
  | nil => simp [splitOn]
  | cons c cs ih =>
    simp only [splitOn]
    split
    · simp
    · split <;> simp

theorem splitOn_no_sep (sep : Char) (s : List Char) (h : sep ∉ s) : splitOn sep s = [s] := by
  induction s with
  | nil => rfl
  | cons c cs ih =>
    have hc : c ≠ sep := fun e => h (by simp [e])
    have := ih (fun hm => h (List.mem_cons_of_mem _ hm))
    simp [splitOn, hc, this]

theorem splitOn_append_sep (sep : Char) (s rest : List Char) (h : sep ∉ s) :
    splitOn sep (s ++ sep :: rest) = s :: splitOn sep rest := by
  induction s with
  | nil => simp [splitOn]
  | cons c cs ih =>
    have hc : c ≠ sep := fun e => h (by simp [e])
    have := ih (fun hm => h (List.mem_cons_of_mem _ hm))
    simp [splitOn, hc, this]

/-- Splitting a joined path gives back the segments, as long as no segment contains the separator
    (the property's "single legal path segment"). -/
theorem split_join (sep : Char) (segs : List (List Char)) (hne : segs ≠ []) (h : ∀ s ∈ segs, sep ∉ s) :
    splitOn sep (joinWith sep segs) = segs := by
  induction segs with
  | nil => exact absurd rfl hne
  | cons s ss ih =>
    cases ss with
    | nil => simp [joinWith, splitOn_no_sep sep s (h s (by simp))]
    | cons t ts =>
      simp only [joinWith]
      rw [splitOn_append_sep sep s _ (h s (by simp))]
      rw [ih (by simp) (fun x hx => h x (List.mem_cons_of_mem _ hx))]

/-- hive directory names round-trip: names and value texts come back exactly, for any number of
    partition levels, provided names and value texts contain neither '/' nor '='. -/
theorem hive_rt (kvs : List (List Char × List Char)) (hne : kvs ≠ [])
    (h : ∀ kv ∈ kvs, '/' ∉ kv.1 ∧ '/' ∉ kv.2 ∧ '=' ∉ kv.1 ∧ '=' ∉ kv.2) :
    parseHive (renderHive kvs) = kvs := by
  unfold parseHive renderHive
  rw [split_join '/' _ (by simpa using hne) (by
    intro s hs
    obtain ⟨kv, hkv, rfl⟩ := List.mem_map.mp hs
    obtain ⟨h1, h2, _, _⟩ := h kv hkv
    simp only [List.mem_append, List.mem_cons, not_or]
    exact ⟨h1, by decide, h2⟩), List.filterMap_map]
  clear hne
  induction kvs with
  | nil => rfl
  | cons kv rest ih =>
    obtain ⟨_, _, h3, h4⟩ := h kv List.mem_cons_self
    simp [splitOn_append_sep '=' kv.1 kv.2 h3, splitOn_no_sep '=' kv.2 h4, ih fun x hx => h x (List.mem_cons_of_mem _ hx)]

example : groups [(0, some 2), (1, none), (2, some 0), (3, some 2)] = [(0, [2]), (2, [0, 3])] := by decide
example : parseHive (renderHive [("p".toList, "1".toList), ("q".toList, "x".toList)]) = [("p".toList, "1".toList), ("q".toList, "x".toList)] := by decide

end PqV.Props.C08
