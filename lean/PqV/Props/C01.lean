import PqV.Gen.RangeIndex
import PqV.Lemmas.ReadPage
import PqV.Gen.ReadGuards
/-!
# C01 — write → read round trip under every write option

The round-trip oracle runs on the real code (harness/c01.py) and every written file is decoded by the
Lean reader `Spec.File` (C02).  The theorems here cover the parts of the pipeline that are pure
arithmetic or layout and hold for ALL inputs: the reader's shortcut over null-free definition levels
matches the block the writer lays down (both REGENERATED from the source), the writer's two level
layouts decode to the intended levels, INT96 and time-unit conversions are exact inverses, and
cutting a column into pages at any offsets loses nothing.
-/
namespace PqV.Props.C01
open PqV.Spec PqV.Gen.SkipDef PqV.Impl

/-- **the reader's shortcut skips exactly the block the writer wrote**, for every row count — the
    constants 6 / 64 / 128 of `skip_definition_bytes` and the layout of `make_definitions` are
    regenerated from the source on every run, so an edit to either that breaks the agreement breaks
    this theorem.  (`skipLen`: bytes `skip_definition_bytes(io, num)` steps over; `blockLen`: length prefix +
    varint(num << 1) + the value byte; both in `Impl.ReadPage` / `Lemmas.SkipDef`.) -/
theorem skip_matches_block (num : Nat) : skipLen num = blockLen num := skipLen_eq_blockLen num

/-- the value byte of the null-free block is the level it stands for -/
theorem block_value_now : value = 1 := by decide

/-- **the null-free block decodes to `num` levels 1** under the specification reader -/
theorem nullfree_block_decodes (num : Nat) (tail : List Nat) (h : uvarintLen (num * 2) + 1 < 2 ^ 32) :
    levelsV1 1 num (leBytes 4 (encodeRuns 1 [Run.rle num 1]).length ++ encodeRuns 1 [Run.rle num 1] ++ tail)
      = some (List.replicate num 1, tail) := by
  have hs := RunStream.of_runs (w := 1) (rs := [Run.rle num 1]) (by simp [Run.wf]) num
  have := (hs.levelsV1 (m := 1) (by decide) (by decide)
    (by simpa [encodeRuns, encodeRun, leBytes_length, uvarintLen] using h) tail).1
  simpa [Run.values] using this

/-- **the block with nulls** (one bit-packed run of the not-null bits, padded to a whole byte) decodes to the bits -/
theorem nullable_block_decodes (bits pad : List Nat) (hb : ∀ v ∈ bits ++ pad, v < 2) (h8 : (bits ++ pad).length % 8 = 0)
    (tail : List Nat) (hlen : (encodeRuns 1 [Run.bp (bits ++ pad)]).length < 2 ^ 32) :
    levelsV1 1 bits.length (leBytes 4 (encodeRuns 1 [Run.bp (bits ++ pad)]).length ++ encodeRuns 1 [Run.bp (bits ++ pad)] ++ tail)
      = some (bits, tail) := by
  have he : encodeRuns 1 [Run.bp (bits ++ pad)]
      = uvarintEnc ((bits ++ pad).length / 8 * 2 + 1) ++ packLE 1 (bits ++ pad) := by simp [encodeRuns, encodeRun]
  rw [he] at hlen ⊢
  exact ((RunStream.bp h8 hb).levelsV1 (m := 1) (by decide) (by decide) hlen tail).1

/-- **INT96** (nanoseconds of day + Julian day) is an exact encoding of every nanosecond instant -/
theorem int96_roundtrip (ns : Int) :
    let day := ns / 86400000000000 + 2440588
    let nod := ns % 86400000000000
    (day - 2440588) * 86400000000000 + nod = ns ∧ 0 ≤ nod ∧ nod < 86400000000000 := by
  refine ⟨?_, Int.emod_nonneg _ (by norm_num), Int.emod_lt_of_pos _ (by norm_num)⟩
  omega

/-- **time units**: scaling a stored value up to nanoseconds and back is exact -/
theorem unit_scaling_exact (x : Int) (f : Int) (hf : 0 < f) : x * f / f = x := Int.mul_ediv_cancel x (by omega)

/-- **paging**: cutting a column at any offset and concatenating the pieces gives the column -/
theorem pages_concat {α} (xs : List α) (k : Nat) : xs.take k ++ xs.drop k = xs := List.take_append_drop k xs

example : skipLen 1000 = 7 ∧ skipLen 10 = 6 ∧ skipLen 20000 = 8 := by decide
example : blockLen 20000 = 8 := by rw [← skip_matches_block]; decide

section writerBlock

/-- **the level block the writer emits for a column with nulls decodes to the not-null bits**: the
    model of `make_definitions` (run header `len(out) << 1 | 1`, then `convert`'s boolean packing
    `writerPackBools`, tied to the real code by the `pack_bools` correspondence stream) is one
    well-formed bit-packed run of the bits padded with zeros, so the specification reader returns the
    bits and continues right behind the block — for every number of rows, incl. multiples of 8 where
    the writer appends a whole padding byte. -/
theorem writer_level_block_decodes (bits tail : List Nat) (hb : ∀ v ∈ bits, v < 2)
    (hlen : (uvarintEnc ((writerPackBools bits).length * 2 + 1) ++ writerPackBools bits).length < 2 ^ 32) :
    levelsV1 1 bits.length
      (leBytes 4 (uvarintEnc ((writerPackBools bits).length * 2 + 1) ++ writerPackBools bits).length
        ++ (uvarintEnc ((writerPackBools bits).length * 2 + 1) ++ writerPackBools bits) ++ tail) = some (bits, tail) :=
  ((packedBits_stream bits hb).levelsV1 (m := 1) (by decide) (by decide) hlen tail).1

example : writerPackBools [1, 0, 1, 1, 0, 0, 0, 1] = [141, 0] := by decide

end writerBlock

section rangeIndex
open PqV.Gen.RangeIndex

/-- Python's `len(range(start, stop, step))` for a non-zero step -/
def rangeLen (start stop step : Int) : Nat :=
  if 0 < step then (if start < stop then ((stop - start - 1) / step + 1).toNat else 0)
  else (if stop < start then ((start - stop - 1) / (-step) + 1).toNat else 0)

theorem ediv_pred (n s : Int) (hs : 0 < s) : (n * s - 1) / s = n - 1 := by
  have e : n * s - 1 = (s - 1) + (n - 1) * s := by ring
  rw [e, Int.add_mul_ediv_right _ _ (by omega), Int.ediv_eq_zero_of_lt (by omega) (by omega)]
  omega

/-- **a written RangeIndex is regenerated with exactly as many labels as rows, for every start, every non-zero step
    (negative steps too) and every row count**: `pre_allocate` rebuilds `RangeIndex(start, stop, step)[:size]` with the
    `stop` expression REGENERATED from api.py; the slice keeps `min size len` labels, and this theorem says that is
    `size`, so assigning the index to the frame cannot fail and label `i` is `start + i·step`.  (With the earlier
    `start + size·step + 1` the statement is false exactly for `step = -1`, see below.) -/
theorem range_index_regenerated_now (start step : Int) (size : Nat) (h : step ≠ 0) :
    slicedToSize = true ∧ min size (rangeLen start (stopExpr start step size) step) = size := by
  refine ⟨by decide, ?_⟩
  unfold rangeLen stopExpr
  rcases Nat.eq_zero_or_pos size with rfl | hpos
  · simp
  have hsz : (0 : Int) < size := by exact_mod_cast hpos
  by_cases hs : 0 < step
  · have hlt : start < start + (size : Int) * step := by have := Int.mul_pos hsz hs; omega
    have e : start + (size : Int) * step - start - 1 = (size : Int) * step - 1 := by ring
    simp only [hs, hlt, if_true, e, ediv_pred _ _ hs]
    omega
  · have hneg : 0 < -step := by omega
    have hlt : start + (size : Int) * step < start := by have := Int.mul_pos hsz hneg; rw [Int.mul_neg] at this; omega
    have e : start - (start + (size : Int) * step) - 1 = (size : Int) * (-step) - 1 := by ring
    simp only [hs, hlt, if_false, if_true, e, ediv_pred _ _ hneg]
    omega

/-- the formula the code had before repair (`stop = start + size·step + 1`) regenerates one label too few for
    `RangeIndex(10, 6, -1)`: 3 labels for 4 rows — pandas then refuses the index (`Length mismatch`) -/
theorem old_stop_formula_short : min 4 (rangeLen 10 (10 + 4 * (-1) + 1) (-1)) = 3 := by decide

example : rangeLen 5 13 2 = 4 ∧ rangeLen 10 6 (-1) = 4 ∧ rangeLen 0 (-12) (-3) = 4 ∧ rangeLen 3 3 1 = 0 := by decide

end rangeIndex

section readBack

/-- **write → read at page level, through the models of BOTH real routines**: `Impl.writerPageBody` is the model of what
    `write_column` lays down (tied byte for byte by the `wpage.chunk` stream), `Impl.readDataPage` + `placePage` the
    model of `core.read_data_page` and of `read_col`'s placement (tied by the `rpage.v1` stream, which runs the real
    function on every v1 page the run writes).  For ANY column spec with v1 pages (physical type, REQUIRED / OPTIONAL,
    PLAIN or dictionary with 1-, 2-, 4-byte signed codes) and ANY cells the type can hold — any number of rows incl. 0,
    any null pattern — the reader returns exactly the cells (for a categorical column the category each code names):
    through `read_def`, through the `skip_definition_bytes` shortcut when the chunk statistics say "no null"
    (`skip = true`; the shortcut's constants are REGENERATED from core.py and the block layout from writer.py), through
    `read_plain`, and through the byte-exact `np.frombuffer` shortcut for fastparquet's own dictionary codes. -/
theorem read_back_written_page (c : ColSpec) (hv : c.v2 = false) (hpt : c.ptype ≤ 7) (cats cells : List Cell)
    (hok : PageOk c cats.length cells) (skip : Bool) (hskip : skip = true → ∀ v ∈ cells, v ≠ Cell.null)
    (hitem : ∀ item, c.dictItem = some item →
      (item = 1 ∨ item = 2 ∨ item = 4) ∧ ∀ v ∈ nonNull cells, cellNat v < 2 ^ (item * 8 - 1)) :
    (readDataPage (!c.hasNulls) (leafOf c).maxDef c.ptype c.typeLength (encOf c) cells.length skip true
        (writerPageBody c cells)).bind (placePage (leafOf c).maxDef (dictOf c cats))
      = some (cells.map (render c cats)) :=
  Impl.read_back_written_page c hv hpt cats cells hok skip hskip hitem

/-- **when the reader steps over the level block, as the code has it now** (REGENERATED from `core.read_col` /
    `read_data_page`): `skip_nulls` is set only for a fastparquet-written chunk whose statistics record `null_count == 0`, and
    it is used only for a column that is not REQUIRED; the byte-exact code path is taken only for 8/16/32-bit indices of a
    fastparquet-written file.  These are the hypothesis `skip = true → no null` and the argument `selfmade = true` of `read_back_written_page`
    (the writer records the exact null count: C04 `null_count_exact`). -/
theorem read_guards_now :
    PqV.Gen.ReadGuards.skipGuard = ["selfmade", "hasattr(cmd, 'statistics')", "getattr(cmd.statistics, 'null_count', 1) == 0"] ∧
    PqV.Gen.ReadGuards.skipUse = ["skip_nulls and (not helper.is_required(metadata.path_in_schema))"] ∧
    PqV.Gen.ReadGuards.codeFastPath = ["bit_width in [8, 16, 32] and selfmade"] := ⟨rfl, rfl, rfl⟩

/-- **… and at column-chunk level**: whatever way the rows are cut into pages, reading the pages in order and
    concatenating what is placed gives the column. -/
theorem read_back_written_column (c : ColSpec) (hv : c.v2 = false) (hpt : c.ptype ≤ 7) (cats : List Cell) (pages : List (List Cell))
    (hok : ∀ p ∈ pages, PageOk c cats.length p) (skip : Bool) (hskip : skip = true → ∀ p ∈ pages, ∀ v ∈ p, v ≠ Cell.null)
    (hitem : ∀ item, c.dictItem = some item →
      (item = 1 ∨ item = 2 ∨ item = 4) ∧ ∀ p ∈ pages, ∀ v ∈ nonNull p, cellNat v < 2 ^ (item * 8 - 1)) :
    (pages.mapM fun cells =>
        (readDataPage (!c.hasNulls) (leafOf c).maxDef c.ptype c.typeLength (encOf c) cells.length skip true
          (writerPageBody c cells)).bind (placePage (leafOf c).maxDef (dictOf c cats))).map List.flatten
      = some (pages.flatten.map (render c cats)) := by
  rw [mapM_some _ (fun cells => cells.map (render c cats)) pages fun p hp =>
    Impl.read_back_written_page c hv hpt cats p (hok p hp) skip (fun h => hskip h p hp)
      fun item hi => ⟨(hitem item hi).1, (hitem item hi).2 p hp⟩]
  rw [Option.map_some, List.map_flatten]

/-- **write → read of a whole chunk with the reader's shortcut decided by the writer's own statistics**: `read_col` steps over
    the level blocks of a fastparquet-written chunk exactly when its recorded `null_count` is 0 (`read_guards_now`), and the
    writer records the sum of the per-page tallies (`writerNullCount`; compared with the real footer on every chunk by the
    `wpage.chunk` stream, and exact by C04 `null_count_exact`).  With that — no hypothesis about the shortcut left — reading the
    pages in order and concatenating what is placed gives the column, however the rows are cut into pages. -/
theorem read_back_written_chunk_by_statistics (c : ColSpec) (hv : c.v2 = false) (hpt : c.ptype ≤ 7) (cats : List Cell)
    (pages : List (List Cell)) (hok : ∀ p ∈ pages, PageOk c cats.length p)
    (hitem : ∀ item, c.dictItem = some item →
      (item = 1 ∨ item = 2 ∨ item = 4) ∧ ∀ p ∈ pages, ∀ v ∈ nonNull p, cellNat v < 2 ^ (item * 8 - 1)) :
    (pages.mapM fun cells =>
        (readDataPage (!c.hasNulls) (leafOf c).maxDef c.ptype c.typeLength (encOf c) cells.length
          (decide (writerNullCount pages = 0)) true
          (writerPageBody c cells)).bind (placePage (leafOf c).maxDef (dictOf c cats))).map List.flatten
      = some (pages.flatten.map (render c cats)) :=
  read_back_written_column c hv hpt cats pages hok (decide (writerNullCount pages = 0))
    (fun h => no_null_of_count_zero pages (by simpa using h)) hitem

/-! non-vacuity: an OPTIONAL INT32 page with a null read through `read_def`; a null-free one through the shortcut -/
example : (readDataPage false 1 PT_INT32 0 ENC_PLAIN 3 false true
      (writerPageBody { ptype := PT_INT32, hasNulls := true, v2 := false } [Cell.int 7, Cell.null, Cell.int 9])).bind
        (placePage 1 none) = some [Cell.int 7, Cell.null, Cell.int 9] := by decide +kernel
example : (readDataPage false 1 PT_INT32 0 ENC_PLAIN 2 true true
      (writerPageBody { ptype := PT_INT32, hasNulls := true, v2 := false } [Cell.int 7, Cell.int 9])).bind
        (placePage 1 none) = some [Cell.int 7, Cell.int 9] := by decide +kernel

end readBack

end PqV.Props.C01
