import PqV.Impl.Dtypes
/-!
# C17 — metadata-only answers match the data actually read
-/
namespace PqV.Props.C17
open PqV.Impl.Dtypes PqV.Gen.Typemap

/-- every integer / boolean dtype the type tables can produce has a nullable counterpart (the
    promotion is total), of the same width and signedness by `nullable_names` -/
theorem promotion_total :
    ((simple ++ complexT).map (·.2)).all (fun d => !isPlainIntOrBool d || (lookupT nullable d).isSome) = true := by
  decide +kernel

theorem nullable_names :
    nullable = [("int8", "Int8"), ("int16", "Int16"), ("int32", "Int32"), ("int64", "Int64"),
                ("uint8", "UInt8"), ("uint16", "UInt16"), ("uint32", "UInt32"), ("uint64", "UInt64"), ("bool", "boolean")] := rfl

/-- the source as it stands: missing null counts mean "may have nulls", and the pandas_nulls-off
    branch yields a dtype (both regenerated from `_dtypes`) -/
theorem dtypes_source_now : missingNullCountMeansNulls = true ∧ nullsOffIsDtype = true := by decide

/-- how many nulls a chunk really holds is bounded by what its statistics admit -/
def consistent (c : ChunkStat) (actualNulls : Nat) : Prop :=
  (c.numRows = 0 → actualNulls = 0) ∧ (∀ k, c.stats = some (some k) → actualNulls = k)

theorem mayHaveNulls_false (rgs : List ChunkStat) (h : mayHaveNulls true rgs = false) :
    ∀ c ∈ rgs, c.numRows = 0 ∨ c.stats = some (some 0) := by
  induction rgs with
  | nil => simp
  | cons c cs ih =>
    unfold mayHaveNulls at h
    refine List.forall_mem_cons.mpr ?_
    split at h
    · exact ⟨.inl ‹_›, ih h⟩
    · split at h
      · cases h
      · cases h
      · rename_i k hs
        split at h
        · cases h
        · rename_i hk
          exact ⟨.inr (by rw [hs, Decidable.not_not.mp hk]), ih h⟩

/-- Soundness of the promotion: if the loop concludes "no nulls", then no row group holds a null —
    provided statistics without a null count count as "may have nulls". -/
theorem nullable_sound (rgs : List ChunkStat) (actual : List Nat) (hlen : actual.length = rgs.length)
    (hc : ∀ i (h1 : i < rgs.length) (h2 : i < actual.length), consistent rgs[i] actual[i])
    (h : mayHaveNulls true rgs = false) : ∀ a ∈ actual, a = 0 := by
  intro a ha
  obtain ⟨i, hi, rfl⟩ := List.getElem_of_mem ha
  obtain ⟨h0, hk⟩ := hc i (hlen ▸ hi) hi
  rcases mayHaveNulls_false rgs h _ (List.getElem_mem (hlen ▸ hi)) with hz | hs
  · exact h0 hz
  · exact hk 0 hs

/-- …and it is NOT sound when a missing null count is read as zero (the repaired defect):
    statistics present without null_count, one null in the chunk, "no nulls" concluded. -/
theorem missing_null_count_unsound :
    ∃ (rgs : List ChunkStat) (actual : List Nat),
      (∀ i (h1 : i < rgs.length) (h2 : i < actual.length), consistent rgs[i] actual[i]) ∧
      mayHaveNulls false rgs = false ∧ ∃ a ∈ actual, a ≠ 0 := by
  refine ⟨[⟨5, some none⟩], [1], ?_, by decide, 1, by simp, by decide⟩
  intro i h1 h2
  obtain rfl : i = 0 := by simpa using h1
  exact ⟨by simp, by simp⟩

/-- a column that may hold nulls is never predicted a plain (non-nullable) integer or boolean -/
theorem predict_never_plain (base : String) (rgs : List ChunkStat) (pn : Bool)
    (hb : (lookupT nullable base).isSome = true) (hn : mayHaveNulls missingNullCountMeansNulls rgs = true) :
    predict base rgs pn = (if pn then (lookupT nullable base).getD "" else "float64") := by
  unfold predict
  cases h : lookupT nullable base with
  | none => simp [h] at hb
  | some ext => simp [hn]

example : typemap "INT32" (some "UINT_8") 0 = "uint8" := by decide
example : predict "int64" [⟨3, some (some 0)⟩, ⟨2, none⟩] true = "Int64" := by decide

end PqV.Props.C17
