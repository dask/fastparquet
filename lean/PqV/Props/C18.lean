import PqV.Lemmas.Dataset
import PqV.Lemmas.Footer
import PqV.Impl.Append
import PqV.Gen.AppendIO
import PqV.Lemmas.Rejected
import PqV.Props.C19
/-!
# C18 — rejected operations raise and leave an existing dataset exactly as it was
-/
namespace PqV.Props.C18
open PqV.Impl.Dataset PqV.Impl.Footer PqV.Spec

/-- A failure at ANY position of a multi-file append (any column of any row group: the failing
    part file is torn, later ones are never started) happens before the summary is rewritten, so a
    fresh open reads exactly the previous content: instance of the crash theorem at every prefix of
    the data phase. -/
theorem multi_fail_intact (partitioned : Bool) (fs : FS) (old : List RgRef) (nd : NewData)
    (hmeta : fs.get .pmeta = some (.refs old)) (k : Nat)
    (hk : k ≤ (dataOps partitioned (maxPart old) 0 nd).length) :
    readDS (runOps fs ((appendOps partitioned old nd).take k)) = readDS fs :=
  C19.crash_before_meta partitioned fs old nd hmeta k hk

/-- A rejection detected by up-front validation issues no filesystem operation at all: running the
    empty trace is the identity. -/
theorem upfront_no_effect (fs : FS) : runOps fs [] = fs := rfl

/-- Single-file append that fails after some bytes were written over the old footer:
    WITHOUT a roll-back the trailer is gone — the file no longer ends in the framing of any footer
    (witness: eleven bytes of a new row group written over a 3-byte footer and its trailer). -/
theorem simple_fail_fails :
    ∃ (f partialBytes : List Nat),
      let g := overlay f (footerLoc false f) partialBytes
      g ≠ f ∧ g.length < leNat ((g.drop (g.length - 8)).take 4) + 8 ∨ g.drop (g.length - 4) ≠ magic := by
  refine ⟨[9, 9, 1, 2, 3, 3, 0, 0, 0, 0x50, 0x41, 0x52, 0x31], List.replicate 11 7, ?_⟩
  decide

/-- With a roll-back (rewrite the saved old tail at the old footer position and truncate) the
    file is restored byte for byte whatever was written in between. -/
theorem simple_fail_rollback (f partialBytes : List Nat) (h : footerLoc false f ≤ f.length) :
    let loc := footerLoc false f
    (overlay f loc partialBytes).take loc ++ f.drop loc = f := by
  simp only
  rw [overlay_take h, List.take_append_drop]

/-- The code as it stands restores the saved footer in its exception handler and re-raises
    (regenerated from `write_simple.write_to_file`): the roll-back theorem applies to it. -/
theorem rolls_back_now : PqV.Gen.AppendIO.rollsBack = true := by decide

/-- **history level: failed appends are invisible to everything that follows.**  Take ANY sequence of attempted
    multi-file appends, each planned (part numbers by `find_max_part`) from the `_metadata` it finds on disk, each either
    completing or failing after any number `k` of its data-phase operations (a torn or complete part file left behind,
    no summary written).  A fresh open at the end reads exactly what it reads after the sequence of the COMPLETED appends
    alone: a failed attempt only creates or tears files whose part numbers no row group carries, and the next attempt,
    planned from the unchanged `_metadata`, re-creates ('wb') every file it is going to reference.  By an invariant
    (`Agree`: same `_metadata`, same content in every referenced file) carried through the induction over the
    history; the operation lists are those of `Impl.Dataset.appendOps`, tied to the real `open_with` / `mkdirs` call
    sequence by the C19 trace correspondence. -/
theorem rejected_attempts_invisible (partitioned : Bool) (fs : FS) (as : List Attempt) :
    readDS (as.foldl (attempt partitioned) fs) = readDS ((as.filter (·.fail.isNone)).foldl (attempt partitioned) fs) :=
  readDS_agree (attempts_agree (Agree.refl fs))

/-- non-vacuity: a dataset of one row group; an append that dies after tearing `part.1`; then a completed append of other rows
    (which re-creates `part.1`): the failed attempt's rows 7, 8 are nowhere, the dataset reads 1, 2, 3, 4 -/
example :
    let fs : FS := [(.pmeta, .refs [{ dir := "", id := 0, rows := [1, 2] }]), (.part "" 0, .data [1, 2])]
    readDS ([{ nd := [[("", [7, 8])]], fail := some 1 }, { nd := [[("", [3, 4])]], fail := none }].foldl (attempt false) fs)
      = some [1, 2, 3, 4] := by decide

end PqV.Props.C18
