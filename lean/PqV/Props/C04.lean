import PqV.Impl.Stats
import PqV.Gen.Stats
import Mathlib.Tactic.Linarith
/-!
# C04 — column statistics are exact
-/
namespace PqV.Props.C04
open PqV.Impl.Stats

theorem mem_presentVals {col : List (Option Int)} {x : Int} : x ∈ presentVals col ↔ some x ∈ col := by
  simp [presentVals]

theorem optMin_some (m x : Int) : optMin (some m) x = some (min m x) := by
  rw [optMin]; congr 1; omega

theorem optMax_some (m x : Int) : optMax (some m) x = some (max m x) := by
  rw [optMax]; congr 1; omega

theorem colMin_eq (col : List (Option Int)) : colMin col = (presentVals col).min? := by
  cases hp : presentVals col with
  | nil => simp [colMin, hp]
  | cons a t => rw [colMin, hp, List.min?_cons', List.foldl_cons, optMin, List.foldl_hom some optMin_some]

theorem colMax_eq (col : List (Option Int)) : colMax col = (presentVals col).max? := by
  cases hp : presentVals col with
  | nil => simp [colMax, hp]
  | cons a t => rw [colMax, hp, List.max?_cons', List.foldl_cons, optMax, List.foldl_hom some optMax_some]

/-- min is the smallest non-null value actually stored: a lower bound that is attained … -/
theorem min_exact (col : List (Option Int)) (m : Int) (h : colMin col = some m) :
    (∀ x, some x ∈ col → m ≤ x) ∧ some m ∈ col := by
  rw [colMin_eq, List.min?_eq_some_iff] at h
  exact ⟨fun x hx => h.2 x (mem_presentVals.mpr hx), mem_presentVals.mp h.1⟩

/-- … and dually for max -/
theorem max_exact (col : List (Option Int)) (m : Int) (h : colMax col = some m) :
    (∀ x, some x ∈ col → x ≤ m) ∧ some m ∈ col := by
  rw [colMax_eq, List.max?_eq_some_iff] at h
  exact ⟨fun x hx => h.2 x (mem_presentVals.mpr hx), mem_presentVals.mp h.1⟩

/-- a chunk with no non-null value carries no bounds, and only such a chunk -/
theorem no_bounds_iff_empty (col : List (Option Int)) :
    colMin col = none ↔ ∀ c ∈ col, c = none := by
  rw [colMin_eq, List.min?_eq_none_iff, presentVals, List.filterMap_eq_nil_iff]
  exact forall₂_congr fun c _ => by cases c <;> simp

theorem foldl_add (pages : List (List (Option Int))) (acc : Nat) :
    pages.foldl (fun a p => a + pageNulls p) acc = acc + pageNulls pages.flatten := by
  induction pages generalizing acc with
  | nil => simp [pageNulls]
  | cons p ps ih =>
    simp only [List.foldl_cons, List.flatten_cons, ih]
    simp [pageNulls, List.filter_append]; omega

/-- the null tally accumulated page by page equals the number of missing cells of the chunk, for
    EVERY split of the chunk into pages -/
theorem null_count_exact (pages : List (List (Option Int))) :
    (colStats pages).nullCount = (pages.flatten.filter Option.isNone).length := by
  simp only [colStats, nullTally]
  rw [foldl_add]; simp [pageNulls]

/-- the bounds do not depend on the paging at all -/
theorem bounds_independent_of_paging (p1 p2 : List (List (Option Int))) (h : p1.flatten = p2.flatten) :
    (colStats p1).min = (colStats p2).min ∧ (colStats p1).max = (colStats p2).max := by
  simp [colStats, h]

/-- The writer as it stands takes categorical bounds from the labels present, not from the
    category order (regenerated from `write_column`). -/
theorem cat_branch_now : PqV.Gen.Stats.catUsesCategoryOrder = false := by decide

/-- with the label order the categorical bounds are the exact bounds of the labels stored -/
theorem cat_minmax_exact (cats : List Int) (codes : List (Option Nat)) (m : Int)
    (h : (catStats false cats codes).1 = some m) :
    ∀ c, some c ∈ codes → ∀ x, cats[c]? = some x → m ≤ x := by
  intro c hc x hx
  simp only [catStats, Bool.false_eq_true, if_false] at h
  refine (min_exact _ m h).1 x ?_
  simp only [List.mem_map, List.mem_filterMap]
  exact ⟨c, ⟨some c, hc, rfl⟩, hx⟩

/-- by category order they are NOT (the repaired defect): categories [c,b,a] ↦ [3,2,1] -/
theorem cat_minmax_fails_by_category_order :
    ∃ (cats : List Int) (codes : List (Option Nat)),
      (catStats true cats codes).1 = some 3 ∧ (catStats true cats codes).2 = some 1 := by
  exact ⟨[3, 2, 1], [some 2, some 1, some 0], by decide, by decide⟩

theorem chained_pairwise (bounds : List (Int × Int)) (hwf : ∀ b ∈ bounds, b.1 ≤ b.2)
    (hch : strictlyChained bounds = true) : bounds.Pairwise fun a b => a.2 < b.1 := by
  induction bounds with
  | nil => exact .nil
  | cons b bs ih =>
    match bs, hwf, hch, ih with
    | [], _, _, _ => simp
    | c :: cs, hwf, hch, ih =>
      simp only [strictlyChained, Bool.and_eq_true, decide_eq_true_eq] at hch
      have hp := ih (fun x hx => hwf x (List.mem_cons_of_mem _ hx)) hch.2
      refine List.pairwise_cons.mpr ⟨?_, hp⟩
      intro x hx
      rcases List.mem_cons.mp hx with rfl | hx
      · exact hch.1
      · have := (List.pairwise_cons.mp hp).1 x hx
        have := hwf c (by simp)
        omega

/-- `sorted_partitioned_columns` is sound given exact statistics: if every row group's max is
    below the next row group's min, every value of an earlier row group is below every value of a
    later one. -/
theorem spc_sound (bounds : List (Int × Int)) (vals : List (List Int))
    (hlen : bounds.length = vals.length)
    (hexact : ∀ i (hi : i < bounds.length) (hj : i < vals.length), ∀ x ∈ vals[i], bounds[i].1 ≤ x ∧ x ≤ bounds[i].2)
    (hwf : ∀ b ∈ bounds, b.1 ≤ b.2)
    (hch : strictlyChained bounds = true) :
    ∀ i j (hi : i < vals.length) (hj : j < vals.length), i < j → ∀ x ∈ vals[i], ∀ y ∈ vals[j], x < y := by
  intro i j hi hj hij x hx y hy
  have := List.pairwise_iff_getElem.mp (chained_pairwise bounds hwf hch) i j (hlen ▸ hi) (hlen ▸ hj) hij
  have := (hexact i (hlen ▸ hi) hi x hx).2
  have := (hexact j (hlen ▸ hj) hj y hy).1
  omega

example : colStats [[some 3, none], [some (-1), some 7]] = { min := some (-1), max := some 7, nullCount := 1 } := by decide

end PqV.Props.C04
