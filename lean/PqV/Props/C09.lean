import PqV.Impl.DatasetOps
import PqV.Lemmas.Dataset
import PqV.Lemmas.DatasetInv
/-!
# C09 — dataset edits follow a simple model; metadata and directory agree

`Impl.DatasetOps` is the state machine of multi-file dataset edits, validated step by step against
the real directory and `_metadata` over random histories (stream `ds.run`).  `content` is what a
read returns per metadata order: (partition directory, rows) of every row group.
-/
namespace PqV.Props.C09
open PqV.Impl.Dataset PqV.Impl.DatasetOps

/-- an empty dataset agrees -/
theorem agree_init : agree { files := [], refs := [] } = true := by decide

/-- append adds rows (at the end, nothing else changes in what is read) -/
theorem append_adds (ds : DS) (nd : NewData) :
    content (addNew ds nd) = content ds ++ (newRefs (maxPart ds.refs) 0 nd).map (fun r => (r.dir, r.rows)) := by
  simp [content, addNew]

/-- what the new references carry is exactly the new data, piece by piece, in order -/
theorem newRefs_content (off : Nat) (nd : NewData) (i : Nat) :
    (newRefs off i nd).map (fun r => (r.dir, r.rows)) = nd.flatMap id := by
  induction nd generalizing i with
  | nil => rfl
  | cons pieces rest ih =>
    simp only [newRefs, List.map_append, List.map_map, List.flatMap_cons, id, ih]
    congr 1
    induction pieces with
    | nil => rfl
    | cons p ps ihp => simp [ihp]

/-- removal (without renumbering) deletes exactly the chosen row groups from what is read and
    keeps every other row group in its place -/
theorem remove_exact (ds : DS) (idxs : List Nat) (ds' : DS) (h : removeRGs ds idxs false = .ok ds') :
    content ds' = ((content ds).zipIdx.filter (fun p => !idxs.contains p.2)).map (·.1) := by
  cases h
  simp only [content, List.zipIdx_map, List.filter_map, List.map_map]
  rfl

/-- fresh numbers: an append never reuses the path of a referenced file -/
theorem append_fresh (ds : DS) (nd : NewData) :
    ∀ r' ∈ newRefs (maxPart ds.refs) 0 nd, ∀ r ∈ ds.refs, (r'.dir, r'.id) ≠ (r.dir, r.id) :=
  newRefs_fresh_path ds.refs nd

-- non-vacuity / regression witness: the history that exposed the renumbering collision now agrees
example :
    let ds0 := addNew { files := [], refs := [] } [[("p=0", [1]), ("p=1", [0])], [("p=0", [2])]]
    (sortPartNames ds0).map agree = .ok true := by decide

/-- **metadata and directory agree after every history** (the property's invariant, by induction over
    the operations): starting from nothing, after any sequence of write / append / overwrite /
    remove_row_groups / write_row_groups(sort_key) / _sort_part_names — with or without renumbering —
    that the model executes without error, every row group of `_metadata` names a file holding exactly
    its rows, every file on disk is named by a row group, and no two row groups share a file.
    `HistOk`: the pieces of one incoming row group go to distinct directories (they come from a
    group-by), and where part files are renumbered the part numbers and row-group count stay below
    `tmpBase` = 10^6, the model's stand-in for the `.tmp` suffix. -/
theorem agree_after_every_history (ops : List Op) (ds' : DS) (hok : HistOk empty ops) (hr : run empty ops = .ok ds') :
    Inv ds' ∧ agree ds' = true :=
  let h := run_inv inv_empty hok hr
  ⟨h, agree_of_inv h⟩

/-- **renumbering is total and changes nothing that is read**: under the invariant `_sort_part_names`
    cannot fail (no rename finds its source missing, no rename clobbers a live file), afterwards every
    part number equals the position of its row group, and the content per row group is what it was. -/
theorem sort_names_total_and_neutral (ds : DS) (h : Inv ds) (hb : Bounded ds) :
    ∃ ds', sortPartNames ds = .ok ds' ∧ Inv ds' ∧ content ds' = content ds ∧
      ∀ (i : Nat) (r : RgRef), ds'.refs[i]? = some r → r.id = i := by
  obtain ⟨ds', e, hi, hrefs⟩ := sortPartNames_inv h hb
  refine ⟨ds', e, hi, ?_, fun i r hr => ?_⟩
  · apply List.ext_getElem?
    intro i
    simp only [content, hrefs, renumber, List.getElem?_map, List.getElem?_mapIdx]
    cases ds.refs[i]? <;> rfl
  · simp only [hrefs, renumber, List.getElem?_mapIdx, Option.map_eq_some_iff] at hr
    obtain ⟨r0, _, rfl⟩ := hr
    rfl

/-- one step, stated for the operation the property names -/
theorem each_step_keeps_agreement (ds ds' : DS) (op : Op) (h : Inv ds) (hop : OpOk ds op) (hs : step ds op = .ok ds') :
    Inv ds' ∧ agree ds' = true :=
  let h' := step_inv op h hop hs
  ⟨h', agree_of_inv h'⟩

-- non-vacuity: a history with two partitions, a removal, an overwrite and a collision-prone renumbering
-- meets `HistOk`, runs without error and ends in agreement
def witnessOps : List Op :=
  [.write [[("p=0", [1]), ("p=1", [0])], [("p=0", [2])]], .remove [0] false, .append [[("p=1", [7, 8])]],
   .overwrite [[("p=0", [9])]] true, .writeSorted [[("p=1", [3]), ("p=0", [4])]] true, .sortNames]
example : HistOk empty witnessOps := histOk_of_B _ _ (by decide +kernel)
example : (run empty witnessOps).map agree = .ok true := by decide +kernel
example : (run empty witnessOps).map (fun ds => ds.refs.length) = .ok 5 := by decide +kernel

end PqV.Props.C09
