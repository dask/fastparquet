import PqV.Impl.Append
import PqV.Lemmas.Footer
import PqV.Lemmas.Dataset
import PqV.Lemmas.DatasetInv
import PqV.Props.C09
import PqV.Props.C14
import PqV.Props.C19
/-!
# C07 — append adds rows at the end and leaves existing data untouched
-/
namespace PqV.Props.C07
open PqV.Spec PqV.Impl.Footer PqV.Impl.Append PqV.Impl.Dataset

/-- Single file: every byte before the old footer (i.e. every existing row group) is unchanged,
    whatever is appended. -/
theorem append_prefix (f newRgs nf : List Nat) (h : footerLoc false f ≤ f.length) :
    (appendSimple f newRgs nf).take (footerLoc false f) = f.take (footerLoc false f) :=
  overlay_take h

/-- …and the result is `old row groups ++ new row groups ++ new footer ++ length ++ magic` exactly,
    as soon as the new tail is at least as long as the old footer + trailer (it always is: the new
    footer lists every old row group again). -/
theorem append_layout (f newRgs nf : List Nat)
    (hg : f.length ≤ footerLoc false f + (newRgs.length + nf.length + 8)) :
    appendSimple f newRgs nf
      = f.take (footerLoc false f) ++ (newRgs ++ nf ++ leBytes 4 nf.length ++ magic) := by
  unfold appendSimple
  apply overlay_covers
  simp [List.length_append, leBytes_length, magic_length]; omega

/-- Multi-file: new part files get numbers strictly above every referenced number … -/
theorem fresh_part_numbers (old : List RgRef) (nd : NewData) :
    ∀ r' ∈ newRefs (maxPart old) 0 nd, ∀ r ∈ old, r.id < r'.id :=
  newRefs_fresh old nd

/-- … so no existing data file of a multi-file dataset is rewritten, truncated or renamed
    (no operation of the append targets one). -/
theorem multi_no_touch (partitioned : Bool) (old : List RgRef) (nd : NewData) :
    ∀ op ∈ appendOps partitioned old nd, ∀ r ∈ old, target op ≠ some (.part r.dir r.id) :=
  C19.never_opens_existing partitioned old nd

/-- Categoricals: when every row group carries the same dictionary the read returns each row's
    own label. -/
theorem append_cats_partial (chunks : List CatChunk) (d : List String) (h : ∀ c ∈ chunks, c.dict = d) :
    readCats chunks = chunks.flatMap (·.labels) :=
  C14.merge_cats_partial chunks d h

/-- The full statement ("every value intact, including categorical columns whose later batches
    carry different category sets") is FALSE of the reader as written: known finding. -/
theorem append_cats_fails :
    ∃ chunks : List CatChunk, readCats chunks ≠ chunks.flatMap (·.labels) :=
  C14.merge_cats_fails

example : footerLoc false [9, 9, 1, 2, 3, 3, 0, 0, 0, 0x50, 0x41, 0x52, 0x31] ≤ 13 := by decide

section sequences
open PqV.Impl.DatasetOps

/-- **any sequence of appends to a multi-file dataset**: what is read afterwards is what was read
    before followed by every appended batch, piece by piece, in the order of the appends; the invariant
    (metadata and directory agree, no shared files) still holds; and every file that existed before the
    first append still holds exactly the rows it held. -/
theorem appends_concatenate (nds : List NewData) (hp : ∀ nd ∈ nds, PiecesOk nd) :
    ∀ (ds : DS), Inv ds →
      content (nds.foldl addNew ds) = content ds ++ nds.flatMap (fun nd => nd.flatMap id) ∧
      Inv (nds.foldl addNew ds) ∧
      ∀ r ∈ ds.refs, fget (nds.foldl addNew ds).files (key r) = some r.rows := by
  induction nds with
  | nil => intro ds h; exact ⟨by simp, h, h.refs_ok⟩
  | cons nd rest ih =>
    intro ds h
    have h1 := addNew_inv h (hp nd List.mem_cons_self)
    obtain ⟨a, b, c⟩ := ih (fun x hx => hp x (List.mem_cons_of_mem _ hx)) (addNew ds nd) h1
    refine ⟨?_, b, fun r hr => c r (List.mem_append_left _ hr)⟩
    simp only [List.foldl_cons, List.flatMap_cons]
    rw [a, PqV.Props.C09.append_adds, PqV.Props.C09.newRefs_content, List.append_assoc]

end sequences

/-- the source as it stands (REGENERATED from `writer.find_max_part` / `write_multi`): the first new
    part number of an append is one more than the highest number the metadata references (0 for an
    empty dataset), computed from the dataset's whole row-group list — the `maxPart` of the model -/
theorem part_numbering_now : PqV.Gen.PartNumbering.rule = "maxPlusOne" ∧
    PqV.Gen.PartNumbering.offsetAssignments = ["i_offset=0", "i_offset=find_max_part(fmd.row_groups)"] :=
  C19.part_numbering_now

end PqV.Props.C07
