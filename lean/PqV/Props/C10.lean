import PqV.Spec.Thrift
import PqV.Lemmas.Thrift
import PqV.Impl.ThriftSer
import PqV.Gen.Idl
import PqV.Gen.Specs
import PqV.Gen.CallSites
import PqV.Lemmas.ThriftSerRefine
import PqV.Lemmas.ThriftReadRefine
/-!
# C10 — metadata serialisation is lossless, IDL-conformant and safe for any size
Table obligations over the REGENERATED tables (IDL, specs/children, call sites).
-/
namespace PqV.Props.C10
open PqV.Gen

def idlFields (s : String) : Option (List Idl.Field) := (Idl.structs.find? (·.1 == s)).map (·.2)

/-- every (field name ↦ id) of the hand-maintained `specs` table is what the IDL declares -/
def idsAgree : Bool :=
  Specs.specs.all fun (s, fs) =>
    match idlFields s with
    | some ifs => fs.all fun (n, id) => ifs.any fun f => f.name == n && f.id == id
    | none => false

/-- …and no IDL field of those structs is missing from `specs` -/
def specsComplete : Bool :=
  Specs.specs.all fun (s, fs) =>
    match idlFields s with
    | some ifs => ifs.all fun f => fs.any fun (n, id) => f.name == n && f.id == id
    | none => false

/-- the `children` table names the struct type the IDL gives the field (directly or as list element) -/
def childrenAgree : Bool :=
  Specs.children.all fun (s, cs) =>
    match idlFields s with
    | some ifs => cs.all fun (fname, cname) => ifs.any fun f =>
        f.name == fname && (f.ty == .struct cname || f.ty == .list (.struct cname))
    | none => true           -- struct not in the IDL subset used by fastparquet (e.g. crypto)

/-- fields the writer's loop `for i in range(loopLo, loopHi)` never reaches -/
def droppedFields : List (String × String × Nat) :=
  Specs.specs.flatMap fun (s, fs) => (fs.filter fun (_, id) => id < Specs.loopLo || id ≥ Specs.loopHi).map fun (n, id) => (s, n, id)

/-- The full statement (every declared field is serialised) is FALSE: exactly these two fields with
    id 14 are silently dropped on (re-)serialisation (known finding C10-field14).  Any further
    dropped field breaks this theorem. -/
theorem field14_dropped :
    droppedFields = [("LogicalType", "UUID", 14), ("ColumnMetaData", "bloom_filter_offset", 14)] := by decide +kernel

def isIntTy : Idl.TT → Bool
  | .i8 | .i16 | .i32 | .i64 | .enum _ => true
  | _ => false
def is32 : Idl.TT → Bool
  | .i8 | .i16 | .i32 | .enum _ => true
  | _ => false

/-- a construction site marks its integer fields correctly: those and only those that the IDL
    declares narrower than 64 bits are flagged 32-bit -/
def siteOk (s : CallSites.Site) : Bool :=
  match idlFields s.struct with
  | none => false
  | some ifs =>
    s.fields.all fun fname =>
      match ifs.find? (·.name == fname) with
      | none => false
      | some f =>
        if isIntTy f.ty then
          (if s.marker == "all" then is32 f.ty
           else if s.marker == "list" then (s.i32list.contains f.id) == is32 f.ty
           else !is32 f.ty)
        else true

def badSites : List (String × Nat × String) := (CallSites.sites.filter (fun s => !siteOk s)).map fun s => (s.file, s.line, s.struct)

/-- the three obligations on `specs` / `children` against the IDL, decided in one evaluation: they
    look the same structs up in the IDL table and compare the same names, and the kernel shares that
    work only within one evaluation -/
theorem tables_agree : idsAgree = true ∧ specsComplete = true ∧ childrenAgree = true := by decide +kernel

theorem ids_agree : idsAgree = true := tables_agree.1

theorem specs_complete : specsComplete = true := tables_agree.2.1

theorem children_agree : childrenAgree = true := tables_agree.2.2

/-- every Thrift construction site in writer.py / util.py / api.py carries the right 32-bit markers,
    except the throw-away `SchemaElement(type=BOOLEAN)` inside `make_definitions`, which is only passed
    to `encode_plain` and never serialised -/
theorem callsite_markers_ok : badSites.map (fun b => (b.1, b.2.2)) = [("writer.py", "SchemaElement")] := by decide +kernel

/-- `IntType.bitWidth` (i8) and `RowGroup.ordinal` (i16) are the only fields narrower than 32 bits: the (wrong) re-typing of narrow integers is confined to them (known finding C10-narrow-int) -/
def narrowFields : List (String × String) :=
  Idl.structs.flatMap fun (s, fs) => (fs.filter fun f => f.ty == .i8 || f.ty == .i16).map fun f => (s, f.name)

theorem narrow_fields : narrowFields = [("IntType", "bitWidth"), ("RowGroup", "ordinal")] := by decide +kernel

/-- **lossless at specification level, for every structure**: the compact-protocol decoder the Lean
    reader uses returns exactly the structure that was encoded — any nesting of structs and lists,
    short and long field headers, short and long list headers, booleans in fields and in lists, all
    integer widths, binaries, doubles — and leaves the bytes that follow untouched.  (The serialiser
    of fastparquet is tied to this specification by the 3-way correspondence; where it departs —
    field id 14, narrow ints, empty-list type byte — is listed as known findings.) -/
theorem spec_roundtrip_any_structure (fs : List (Nat × PqV.Spec.TVal)) (hok : PqV.Spec.fieldsOk 0 fs = true) (rest : List Nat) :
    PqV.Spec.decStruct (PqV.Spec.encFields 0 fs ++ rest) = some (.struct fs, rest) := by
  unfold PqV.Spec.decStruct
  have hsz := PqV.Spec.fieldsSz_le fs 0
  rw [(PqV.Spec.dec_enc_all _).2.2 fs 0 hok (by simp only [List.length_append]; omega) rest]
  rfl

example : PqV.Spec.fieldsOk 0 [(1, .i32 (-5)), (3, .list 1 [.bool true, .bool false]), (20, .struct [(2, .binary [7, 8])])] = true := by
  decide

/-- **the serialiser model refines the specification encoder** (all structures, unbounded nesting):
    whenever the Python-level structure handed to `ThriftObject.to_bytes` has an IDL-level reading
    (`specThrift`: every populated field in the regenerated loop range `Specs.loopLo..loopHi`, no
    empty list, list items of the first item's kind, integers within int64, lengths below 2^64),
    the model of `to_bytes` (Impl.ThriftSer, tied to cencoding.pyx by the correspondence stream)
    emits bytes the specification decoder reads back as exactly that structure, leaving the bytes that
    follow untouched.  The excluded inputs are exactly the known findings (field id ≥ 14 dropped,
    empty-list element type, ints outside int64 wrap) — see `field14_dropped`, `narrow_fields`. -/
theorem serialiser_lossless (m : PqV.Impl.ThriftSer.Marker) (es : List (Nat × PqV.Impl.ThriftSer.PyT))
    (fs : List (Nat × PqV.Spec.TVal)) (tail : List Nat)
    (h : PqV.Impl.ThriftSer.specThrift ((PqV.Impl.ThriftSer.PyT.dict m es).weight + 2) m es = some fs) :
    ∃ out, PqV.Impl.ThriftSer.toBytes (.dict m es) = some out ∧
      PqV.Spec.decStruct (out ++ tail) = some (.struct fs, tail) :=
  have ⟨hw, hc⟩ := PqV.Impl.ThriftSer.toBytes_spec h
  ⟨_, hw, spec_roundtrip_any_structure fs (PqV.Impl.ThriftSer.canonFields_ok fs 0 hc) tail⟩

/-- the premise is met by a nested structure with a list of structs, a string and a marked i32 -/
example : (PqV.Impl.ThriftSer.specThrift
    ((PqV.Impl.ThriftSer.PyT.dict (.ids [1]) [(1, .int 7), (2, .list [.dict .none [(1, .str [104, 105])], .dict .none [(3, .int (-2))]]),
        (4, .bytes [1, 2, 3])]).weight + 2)
    (.ids [1]) [(1, .int 7), (2, .list [.dict .none [(1, .str [104, 105])], .dict .none [(3, .int (-2))]]), (4, .bytes [1, 2, 3])]).isSome = true := by
  decide +kernel

/-- **write then read through the models of the real code** (`ThriftObject.to_bytes`, then
    `from_buffer` / `read_thrift`): for every structure with an IDL-level reading `fs` — any nesting —
    the reader consumes exactly the serialised bytes, leaves what follows untouched and returns
    `pyOf (.struct fs)`: the same fields in id order, i32 / i64 told apart by the marker the reader
    rebuilds (`'i32'` / `'i32list'`), binaries as bytes (as text inside lists), lists and nested
    structs recursively.  Nothing else of the input survives: entries that are `None` or outside the
    serialiser's loop range do not (the latter is the known finding `field14_dropped`). -/
theorem read_after_write (m : PqV.Impl.ThriftSer.Marker) (es : List (Nat × PqV.Impl.ThriftSer.PyT))
    (fs : List (Nat × PqV.Spec.TVal)) (tail : List Nat)
    (h : PqV.Impl.ThriftSer.specThrift ((PqV.Impl.ThriftSer.PyT.dict m es).weight + 2) m es = some fs) :
    ∃ out, PqV.Impl.ThriftSer.toBytes (.dict m es) = some out ∧
      PqV.Impl.ThriftSer.fromBuffer (out ++ tail) = some (PqV.Impl.ThriftSer.pyOf (.struct fs), tail) :=
  have ⟨hw, hc⟩ := PqV.Impl.ThriftSer.toBytes_spec h
  ⟨_, hw, PqV.Impl.ThriftSer.fromBuffer_enc hc tail⟩

/-- **losslessness, end to end over the models of the real code**: write `x`, read the bytes back,
    and the structure obtained has exactly the IDL-level reading `x` had — `spec (read (write x)) =
    spec x` — for every structure with such a reading, at any nesting depth. -/
theorem roundtrip_same_reading (m : PqV.Impl.ThriftSer.Marker) (es : List (Nat × PqV.Impl.ThriftSer.PyT))
    (fs : List (Nat × PqV.Spec.TVal)) (tail : List Nat)
    (h : PqV.Impl.ThriftSer.specThrift ((PqV.Impl.ThriftSer.PyT.dict m es).weight + 2) m es = some fs) :
    ∃ out m' es', PqV.Impl.ThriftSer.toBytes (.dict m es) = some out ∧
      PqV.Impl.ThriftSer.fromBuffer (out ++ tail) = some (.dict m' es', tail) ∧
      ∀ fuel, 15 + PqV.Impl.ThriftSer.needFields fs ≤ fuel → PqV.Impl.ThriftSer.specThrift fuel m' es' = some fs :=
  PqV.Impl.ThriftSer.roundtrip_same_reading m es fs tail h

/-- the reader model inverts the SPECIFICATION encoder on every canonical structure (so it reads what
    any conforming writer emits for these shapes, not only what fastparquet's serialiser emits) -/
theorem reader_inverts_spec_encoder (fs : List (Nat × PqV.Spec.TVal)) (hc : PqV.Impl.ThriftSer.canonFields 0 fs = true) (tail : List Nat) :
    PqV.Impl.ThriftSer.fromBuffer (PqV.Spec.encFields 0 fs ++ tail) = some (PqV.Impl.ThriftSer.pyOf (.struct fs), tail) :=
  PqV.Impl.ThriftSer.fromBuffer_enc hc tail

example : PqV.Impl.ThriftSer.canonFields 0 [(1, .i32 7), (2, .list 12 [.struct [(1, .binary [104, 105])], .struct [(3, .i64 (-2))]]),
    (4, .binary [1, 2, 3]), (5, .bool true)] = true := by decide +kernel
example : PqV.Impl.ThriftSer.fromBuffer (PqV.Spec.encFields 0 [(1, .i32 7), (3, .list 8 [.binary [104]]), (5, .bool false)] ++ [9])
    = some (PqV.Impl.ThriftSer.pyOf (.struct [(1, .i32 7), (3, .list 8 [.binary [104]]), (5, .bool false)]), [9]) :=
  reader_inverts_spec_encoder _ (by decide +kernel) [9]

end PqV.Props.C10
