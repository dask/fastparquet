import PqV.Lemmas.Page
import PqV.Lemmas.KHybrid
import PqV.Lemmas.Delta
import PqV.Lemmas.KDeltaLoop
/-!
# C03 — valid flat Parquet files from any writer decode to exactly what they encode

`Spec.*` is the format specification (the reader `Spec.File` built from these pieces certifies every
file the harness feeds to fastparquet, see harness/c03.py).  The theorems below establish, for ALL
inputs, that this specification decoder inverts every choice a conforming writer has — any index
width, any mixture of RLE and bit-packed runs, any run lengths, any page split, any null pattern —
so "what the file encodes" is well defined and is what the certified oracle computes.  One
block gives model-level witnesses for the two kernel defects recorded as known findings.
-/
namespace PqV.Props.C03
open PqV.Spec PqV.Impl

/-- **any mixture of runs, any width**: a hybrid stream made of arbitrary well-formed RLE and
    bit-packed runs (followed by anything) decodes to the first `n` values it stands for. -/
theorem hybrid_any_runs (w n : Nat) (rs : List Run) (tail : List Nat)
    (hwf : ∀ r ∈ rs, r.wf w = true) (hn : n ≤ (rs.flatMap Run.values).length) :
    decodeHybrid w n (encodeRuns w rs ++ tail) = (rs.flatMap Run.values).take n :=
  decodeHybrid_encodeRuns w n rs tail hwf hn

/-- **dictionary indices**: width byte + any run mixture at that width (0..255) → the indices -/
theorem dict_indices_any_runs (w n : Nat) (rs : List Run) (tail : List Nat)
    (hwf : ∀ r ∈ rs, r.wf w = true) (hn : n ≤ (rs.flatMap Run.values).length) :
    dictIndices n (w :: (encodeRuns w rs ++ tail)) = some ((rs.flatMap Run.values).take n) :=
  dictIndices_runs w n rs tail hwf hn

/-- **dictionary look-up** is total on in-range indices and is the plain map -/
theorem dict_lookup_total (d : List Cell) (ix : List Nat) (h : ∀ i ∈ ix, i < d.length) :
    ix.mapM (fun i => d[i]?) = some (ix.map fun i => d.getD i Cell.null) := dict_lookup d ix h

/-- **one row per definition level** -/
theorem cells_per_level (m : Nat) (defs : List Nat) (vals : List Cell) :
    (scatter m defs vals).length = defs.length := scatter_length m defs vals

/-- **page boundaries at arbitrary rows do not matter**: decoding two pages one after the other
    gives the same column as decoding their concatenation (this is also why dictionary fallback to
    PLAIN within a chunk is just another page) -/
theorem page_split_independent (m : Nat) (d1 d2 : List Nat) (v1 v2 : List Cell)
    (h : v1.length = countMax m d1) :
    scatter m (d1 ++ d2) (v1 ++ v2) = scatter m d1 v1 ++ scatter m d2 v2 := scatter_append m d1 d2 v1 v2 h

/-- **values come back in order** and **nulls are exactly the levels below the maximum** -/
theorem values_in_order (m : Nat) (defs : List Nat) (vals : List Cell)
    (h : vals.length = countMax m defs) (hnn : ∀ v ∈ vals, v ≠ Cell.null) :
    (scatter m defs vals).filter (fun c => decide (c ≠ Cell.null)) = vals := scatter_filter m defs vals h hnn

theorem null_iff_below_max (m : Nat) (defs : List Nat) (vals : List Cell)
    (h : vals.length = countMax m defs) (hnn : ∀ v ∈ vals, v ≠ Cell.null) (i : Nat) (hi : i < defs.length) :
    ((scatter m defs vals)[i]'(by rw [scatter_length]; exact hi) = Cell.null) ↔ defs[i] ≠ m := by
  induction defs generalizing vals i with
  | nil => simp at hi
  | cons d ds ih =>
    rcases countMax_cons_cases h with ⟨rfl, v, vs, rfl, h'⟩ | ⟨hd, h'⟩
    · cases i with
      | zero => simp [scatter, hnn v List.mem_cons_self]
      | succ j => simpa [scatter] using ih vs h' (fun x hx => hnn x (List.mem_cons_of_mem _ hx)) j (by simpa using hi)
    · cases i with
      | zero => simp [scatter, hd]
      | succ j => simpa [scatter, hd] using ih vals h' hnn j (by simpa using hi)

/-- **the compiled reader's hybrid kernel on any index width 1..24 and any mixture of runs**: the
    code-shaped model of `read_rle_bit_packed_hybrid` (tied to the compiled extension by the C11
    correspondence) returns exactly what the specification decoder returns — so dictionary indices and
    definition/repetition levels written by ANY conforming writer at these widths decode right. -/
theorem kernel_hybrid_any_runs (w : Nat) (hw1 : 1 ≤ w) (hw : w ≤ 24) (rs : List Run) (pre post : List Nat) (n : Nat)
    (hok : ∀ r ∈ rs, r.wf w = true ∧ RunOk r) (hpre : ∀ b ∈ pre, b < 256) (hpost : ∀ b ∈ post, b < 256)
    (hn : n ≤ (rs.flatMap Run.values).length) :
    ∃ o' loc', readHybrid (pre ++ encodeRuns w rs ++ post) pre.length w (encodeRuns w rs).length { items := [], cap := 4 * n } 4
        = .ok (o', loc') ∧ o'.items = (rs.flatMap Run.values).take n := by
  obtain ⟨o', loc', h1, h2⟩ := readHybrid_runs w hw1 hw rs pre post { items := [], cap := 4 * n } hok
  exact ⟨o', loc', h1, by simpa using h2⟩

/-- **DELTA_BINARY_PACKED, any shape**: for every block size / miniblock count the format allows
    (whole miniblocks of a multiple of 8 values), every widening of the miniblock bit widths (0..64),
    every list of values of the column's width — any length, any number of blocks, partly filled last
    block and miniblock — the specification decoder returns the values and stops exactly behind them. -/
theorem delta_any_shape (bits : Nat) (hb : 1 ≤ bits) (sh : DeltaShape) (hs : ShapeOk sh) (vs : List Int)
    (hr : ∀ v ∈ vs, inRange bits v) (tail : List Nat) :
    decodeDelta bits (encodeDelta bits sh vs ++ tail) = some (vs, tail) :=
  decodeDelta_encodeDelta bits hb sh hs vs hr tail

example : ShapeOk { blockSize := 128, mpb := 4, extraWidth := 3 } := ⟨by decide, by decide, by decide, by decide⟩

example : ∀ r ∈ [Run.rle 3 5, Run.bp [1, 2, 3, 4, 5, 6, 7, 0], Run.rle 0 1], r.wf 3 = true := by decide
example : decodeHybrid 3 10 (encodeRuns 3 [Run.rle 3 5, Run.bp [1, 2, 3, 4, 5, 6, 7, 0], Run.rle 0 1] ++ [9, 9])
    = [5, 5, 5, 1, 2, 3, 4, 5, 6, 7] := by decide +kernel
example : scatter 1 [1, 0, 1] [Cell.int 7, Cell.int 8] = [Cell.int 7, Cell.null, Cell.int 8] := by decide

/-! ### model-level witnesses of the known kernel findings (C03-dict-index-wide, C03-delta-wide)
The code-shaped models of `read_bitpacked` / `delta_read_bitpacked` (tied to the compiled
extension by the C11 correspondence) hit an out-of-range shift — undefined behaviour in C, wrong
values or a crash in practice — on well-formed input at these widths. -/
def isOk {α} : K α → Bool
  | .ok _ => true
  | .error _ => false

def sample (w n : Nat) : List Nat := (List.range n).map fun i => (2 ^ w - 1 - i * 12345) % 2 ^ w

theorem bitpacked_26_faults :
    isOk (readBitpacked (packLE 26 (sample 26 8)) 0 3 26 { items := [], cap := 32 } 4) = false := by
  decide +kernel

theorem bitpacked_25_faults :
    isOk (readBitpacked (packLE 25 (sample 25 16)) 0 5 25 { items := [], cap := 64 } 4) = false := by
  decide +kernel

theorem bitpacked_24_ok :
    (match readBitpacked (packLE 24 (sample 24 16)) 0 5 24 { items := [], cap := 64 } 4 with
     | .ok (o, ip) => decide (o.items = sample 24 16 ∧ ip = 48)
     | .error _ => false) = true := by
  decide +kernel

theorem delta_bitpacked_29_faults :
    isOk (deltaReadBitpacked (packLE 29 (sample 29 8)) 0 29 8) = false := by
  decide +kernel

theorem delta_bitpacked_28_ok :
    (match deltaReadBitpacked (packLE 28 (sample 28 8)) 0 28 8 with
     | .ok (vs, loc) => decide (vs = sample 28 8 ∧ loc = 28)
     | .error _ => false) = true := by
  decide +kernel

/-- **DELTA_BINARY_PACKED pages from any writer, through the kernel**: the code-shaped model of
    `delta_binary_unpack` returns what the specification decoder returns on every conforming stream
    whose miniblock widths are ≤ 28 (INT32 and INT64, any block shape, any count the blocks cover, any
    position in the page buffer).  Together with `delta_any_shape` (specification round trip) this
    ties the kernel to the values a conforming writer encoded. -/
theorem kernel_delta_any_stream (pre post : List Nat) (longval : Bool) (blockSize mpb cnt : Nat) (first : Int) (blocks : List Block)
    (hbs : blockSize < 2 ^ 64) (hmpb64 : mpb < 2 ^ 64) (hfirst : okI64 first)
    (hmpb : 1 ≤ mpb) (hvpm : 1 ≤ blockSize / mpb) (h8 : blockSize / mpb % 8 = 0) (hcnt1 : 1 ≤ cnt) (hcnt : cnt < 2 ^ 63)
    (hblocks : ∀ b ∈ blocks, BlockOk (blockSize / mpb) mpb b)
    (hroom : cnt ≤ blockSize / mpb * mpb * blocks.length)
    (hbytes : ∀ b ∈ pre ++ encStreamP blockSize mpb cnt first blocks ++ post, b < 256) :
    ∃ vals rest slots loc',
      decodeDelta (if longval then 64 else 32) (encStreamP blockSize mpb cnt first blocks ++ post) = some (vals, rest) ∧
      deltaBinaryUnpack (pre ++ encStreamP blockSize mpb cnt first blocks ++ post) pre.length cnt longval = .ok (slots, loc') ∧
      slots.toList = vals.map (ofSigned (if longval then 64 else 32)) :=
  deltaKernel_eq_spec hbs hmpb64 hfirst hmpb hvpm h8 hcnt1 hcnt hblocks hroom

end PqV.Props.C03
