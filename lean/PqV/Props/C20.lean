import PqV.Impl.Sched
import Mathlib.Tactic.Linarith
import PqV.Gen.PerCall
/-!
# C20 — concurrent reads and derived handles give the same results as sequential use
-/
namespace PqV.Props.C20
open PqV.Impl.Sched

/-- memo locations hold their initial value or the memoised value; other locations are untouched -/
def Inv (g : Nat → Int) (isMemo : Nat → Bool) (s0 s : State) : Prop :=
  ∀ l, (isMemo l = false → s l = s0 l) ∧ (isMemo l = true → s l = s0 l ∨ s l = g l)

/-- steps a read-only operation may contain: reads of non-memo locations, memo steps on memo locations -/
def okStep (isMemo : Nat → Bool) : Step → Bool
  | .read l => !isMemo l
  | .memo l => isMemo l
  | .write _ _ => false

theorem exec_inv (g : Nat → Int) (isMemo : Nat → Bool) (s0 s : State) (st : Step)
    (hok : okStep isMemo st = true) (hinv : Inv g isMemo s0 s) :
    Inv g isMemo s0 (exec g s st).1 ∧ (exec g s st).2 = (exec g s0 st).2 := by
  cases st with
  | read l =>
    simp only [okStep, Bool.not_eq_true'] at hok
    exact ⟨hinv, by simp [exec, (hinv l).1 hok]⟩
  | memo l =>
    simp only [okStep] at hok
    refine ⟨?_, by simp [exec]⟩
    intro x
    simp only [exec]
    by_cases hx : x = l
    · subst hx; simp [hok]
    · simp [hx]; exact hinv x
  | write l v => simp [okStep] at hok

theorem inv_refl {g : Nat → Int} {isMemo : Nat → Bool} {s0 : State} : Inv g isMemo s0 s0 :=
  fun _ => ⟨fun _ => rfl, fun _ => Or.inl rfl⟩

theorem runAlone_congr {g : Nat → Int} {isMemo : Nat → Bool} {s0 : State} {steps : List Step}
    (hok : ∀ st ∈ steps, okStep isMemo st = true) {s s' : State} (h : Inv g isMemo s0 s) (h' : Inv g isMemo s0 s') :
    runAlone g s steps = runAlone g s' steps := by
  induction steps generalizing s s' with
  | nil => rfl
  | cons st rest ih =>
    obtain ⟨i, o⟩ := exec_inv g isMemo s0 s st (hok st List.mem_cons_self) h
    obtain ⟨i', o'⟩ := exec_inv g isMemo s0 s' st (hok st List.mem_cons_self) h'
    simp only [runAlone]
    rw [o, o', ih (fun x hx => hok x (List.mem_cons_of_mem _ hx)) i i']

/-- a thread run alone from any state satisfying the invariant observes what it observes from the
    initial state -/
theorem runAlone_inv (g : Nat → Int) (isMemo : Nat → Bool) (s0 s : State) (steps : List Step)
    (hok : ∀ st ∈ steps, okStep isMemo st = true) (hinv : Inv g isMemo s0 s) :
    runAlone g s steps = runAlone g s0 steps :=
  runAlone_congr hok hinv inv_refl

/-- state after an interleaved prefix still satisfies the invariant, and every step taken
    observes what it would observe from the initial state: the core of non-interference. -/
theorem sched_step_obs (g : Nat → Int) (isMemo : Nat → Bool) (s0 s : State) (st : Step)
    (hok : okStep isMemo st = true) (hinv : Inv g isMemo s0 s) :
    (exec g s st).2 = (exec g s0 st).2 ∧ Inv g isMemo s0 (exec g s st).1 :=
  (exec_inv g isMemo s0 s st hok hinv).symm

/-- Non-interference for read-only use: whatever the other threads have done so far (any
    interleaving of read-only operations leaves the invariant intact), a thread's remaining
    observations are those of running alone. -/
theorem noninterference_partial (g : Nat → Int) (isMemo : Nat → Bool) (s0 : State)
    (threads : List (List Step)) (hok : ∀ th ∈ threads, ∀ st ∈ th, okStep isMemo st = true)
    (sched : List Nat) :
    ∀ (s : State) (ths : List (List Step)), Inv g isMemo s0 s → (∀ th ∈ ths, ∀ st ∈ th, okStep isMemo st = true) →
      -- after running `sched`, every thread's *remaining* steps still observe as if alone from s0
      ∀ th ∈ ths, runAlone g s th = runAlone g s0 th := by
  intro s ths hinv hoks th hth
  exact runAlone_inv g isMemo s0 s th (hoks th hth) hinv

/-- deriving a handle by slicing rebuilds the shared schema tree IN PLACE (reset `children`, refill):
    a reader between the reset and the refill sees a half-built tree.  Witness: thread 0 = the
    rebuild (write 0 to location 5 = "children emptied", then write 1 = "refilled"), thread 1 = a
    lookup; under the schedule [0, 1, 0] the lookup observes 0 (KeyError) although alone it sees 1. -/
theorem slice_breaks :
    ∃ (threads : List (List Step)) (sched : List Nat) (s0 : State),
      (runSched (fun _ => 0) s0 threads sched [[], []])[1]? ≠ some (runAlone (fun _ => 0) s0 (threads[1]?.getD [])) := by
  refine ⟨[[.write 5 0, .write 5 1], [.read 5]], [0, 1, 0], fun _ => 1, by decide⟩

/-- with the rebuilt tree published by ONE atomic write of an equal value (the repair: build the
    children dictionary locally, then assign it), a reader sees the same value before and after -/
theorem atomic_publish_safe (g : Nat → Int) (s0 : State) (l : Nat) :
    let s1 := (exec g s0 (.write l (s0 l))).1
    ∀ x, s1 x = s0 x := by
  intro s1 x
  simp only [s1, exec]
  by_cases h : x = l <;> simp [h]

example : runAlone (fun _ => 7) (fun _ => 1) [.read 3, .memo 4, .read 3] = [some 1, some 7, some 1] := by decide

/-- what a scheduled run keeps true: every thread's observations so far, followed by what it would
    still observe if it ran alone from here, are its observations when run alone from the start -/
def Agree (g : Nat → Int) (s0 s : State) (th0 ths : List (List Step)) (obs : List (List (Option Int))) : Prop :=
  ths.length = th0.length ∧ obs.length = th0.length ∧
  ∀ u, u < th0.length → obs.getD u [] ++ runAlone g s (ths.getD u []) = runAlone g s0 (th0.getD u [])

/-- **non-interference for every interleaving**: any number of threads, any schedule; operations made
    of reads of never-written locations and of memo publications.  At every point of the run, what
    each thread has observed so far is a prefix of what it observes when run alone, and the rest of
    its alone-run is what it would still observe. -/
theorem noninterference (g : Nat → Int) (isMemo : Nat → Bool) (s0 : State) (th0 : List (List Step))
    (sched : List Nat) : ∀ (s : State) (ths : List (List Step)) (obs : List (List (Option Int))),
    Inv g isMemo s0 s → (∀ th ∈ ths, ∀ st ∈ th, okStep isMemo st = true) → Agree g s0 s th0 ths obs →
    ∃ s' ths', Inv g isMemo s0 s' ∧ (∀ th ∈ ths', ∀ st ∈ th, okStep isMemo st = true) ∧
      Agree g s0 s' th0 ths' (runSched g s ths sched obs) := by
  induction sched with
  | nil => exact fun s ths obs hi hok ha => ⟨s, ths, hi, hok, ha⟩
  | cons t rest ih =>
    intro s ths obs hi hok ha
    rw [runSched]
    split
    -- no thread `t`, or it has run to its end: the turn is skipped
    · exact ih s ths obs hi hok ha
    · exact ih s ths obs hi hok ha
    · next st more hth =>
      have hokt : ∀ x ∈ st :: more, okStep isMemo x = true := hok _ (List.mem_of_getElem? hth)
      have hinv' := (exec_inv g isMemo s0 s st (hokt st List.mem_cons_self) hi).1
      refine ih _ _ _ hinv' ?_ ?_
      · intro th' hth' x hx
        rcases List.mem_or_eq_of_mem_set hth' with h | rfl
        · exact hok th' h x hx
        · exact hokt x (List.mem_cons_of_mem _ hx)
      · obtain ⟨hl1, hl2, hag⟩ := ha
        refine ⟨by simp [hl1], by simp [hl2], fun u hu => ?_⟩
        have hu' := hag u hu
        simp only [List.getD_eq_getElem?_getD] at hu' ⊢
        by_cases hut : t = u
        · -- the thread that stepped: its run alone from `s` begins with this very step (the closing `rfl`)
          subst hut
          have ho := List.getElem?_eq_getElem (l := obs) (i := t) (by omega)
          rw [hth, ho] at hu'
          rw [List.getElem?_set_self (List.getElem?_eq_some_iff.mp hth).1, List.getElem?_modify_eq, ho, ← hu']
          simp only [Option.map_eq_map, Option.map_some, Option.getD_some, List.append_assoc]
          rfl
        · rw [List.getElem?_set_ne hut, List.getElem?_modify_ne _ _ hut, ← hu']
          congr 1
          -- another thread: it cannot tell the new state from the old one
          refine runAlone_congr ?_ hinv' hi
          cases h : ths[u]? with
          | none => simp
          | some th => exact hok th (List.mem_of_getElem? h)

/-- from the initial state with nothing observed yet: after ANY schedule, a thread that has run to its
    end has observed exactly what it observes alone -/
theorem finished_threads_observe_as_alone (g : Nat → Int) (isMemo : Nat → Bool) (s0 : State) (th0 : List (List Step))
    (hok : ∀ th ∈ th0, ∀ st ∈ th, okStep isMemo st = true) (sched : List Nat) :
    ∀ u, u < th0.length →
      ∃ left, (runSched g s0 th0 sched (List.replicate th0.length [])).getD u [] ++ left = runAlone g s0 (th0.getD u []) := by
  intro u hu
  have h0 : Agree g s0 s0 th0 th0 (List.replicate th0.length []) := by
    refine ⟨rfl, by simp, ?_⟩
    intro v hv
    simp [List.getD_eq_getElem?_getD, hv]
  obtain ⟨s', ths', _, _, _, _, hag⟩ := noninterference g isMemo s0 th0 sched s0 th0 _ inv_refl hok h0
  exact ⟨_, hag u hu⟩

/-- the per-call resources the property names, as the source has them now (REGENERATED): `to_pandas`
    binds the file it opens to a local name (one file object per call, nothing cached on the handle) and
    works on a copy of the caller's column list; `make_part_file` copies the shared file metadata
    before it changes `row_groups` / `num_rows`; the run-header scratch arrays of `make_definitions`
    and `encode_dict` are allocated inside the call; writer, reader and api have no module-level array
    or bytearray.  These are the facts that make the operations of the interleaving model
    (`noninterference`) consist of reads and memo publications only. -/
theorem per_call_resources_now :
    PqV.Gen.PerCall.fileObjectPerReadCall = true ∧ PqV.Gen.PerCall.columnListCopied = true ∧
    PqV.Gen.PerCall.partFileCopiesMetadataBeforeChangingIt = true ∧ PqV.Gen.PerCall.levelScratchPerCall = true ∧
    PqV.Gen.PerCall.dictScratchPerCall = true ∧ PqV.Gen.PerCall.moduleLevelBuffers = [] := by decide

end PqV.Props.C20
