import PqV.Lemmas.Dataset
import PqV.Gen.PartNumbering
/-!
# C19 — an append interrupted before its metadata update leaves the old dataset intact

`Impl.Dataset.appendOps` is the ordered list of filesystem operations a multi-file append
performs (tied to the real `open_with`/`mkdirs` call sequence by the `fs.trace` stream).
A crash / I/O failure at operation `k` means only the first `k` operations took effect.
-/
namespace PqV.Props.C19
open PqV.Impl.Dataset

/-- In no case does the append open (or write) an existing data file: every file touched before
    the summary is rewritten has a part number above all numbers referenced by the dataset. -/
theorem never_opens_existing (partitioned : Bool) (old : List RgRef) (nd : NewData) :
    ∀ op ∈ appendOps partitioned old nd, ∀ r ∈ old, target op ≠ some (.part r.dir r.id) :=
  appendOps_untouched partitioned old nd

/-- Crash before the summary metadata starts being rewritten: for EVERY crash point `k` up to
    the first `_metadata` operation, a fresh open reads exactly the previous content. -/
theorem crash_before_meta (partitioned : Bool) (fs : FS) (old : List RgRef) (nd : NewData)
    (hmeta : fs.get .pmeta = some (.refs old)) (k : Nat)
    (hk : k ≤ (dataOps partitioned (maxPart old) 0 nd).length) :
    readDS (runOps fs ((appendOps partitioned old nd).take k)) = readDS fs := by
  rw [appendOps, List.take_append_of_le_length hk]
  exact readDS_agree ((Agree.refl fs).avoids hmeta ((dataOps_avoids partitioned old nd).take k))

/-- the order itself: every data-file operation precedes every summary-file operation -/
theorem parts_first_summary_last (partitioned : Bool) (old : List RgRef) (nd : NewData) :
    appendOps partitioned old nd
      = dataOps partitioned (maxPart old) 0 nd ++ metaOps (old ++ newRefs (maxPart old) 0 nd) := rfl

/-- **a completed append**: once every operation has taken effect a fresh open reads the previous
    rows followed by the new rows, in order (each incoming row group's pieces go to distinct directories) -/
theorem completed_append_reads_old_then_new (partitioned : Bool) (fs : FS) (old : List RgRef) (nd : NewData) (oldRows : List Nat)
    (hold : readRefs fs old = some oldRows) (hok : NdOk nd) :
    readDS (runOps fs (appendOps partitioned old nd)) = some (oldRows ++ rowsOf (newRefs (maxPart old) 0 nd)) := by
  obtain ⟨hget, rfl⟩ := readRefs_eq_some.mp hold
  unfold appendOps readDS
  rw [runOps_append, metaOps_pmeta]
  refine readRefs_eq_some.mpr ⟨fun r hr => ?_, by simp [rowsOf]⟩
  rw [metaOps_part]
  rcases List.mem_append.mp hr with hr | hr
  · rw [runOps_get fun op hop => (dataOps_avoids partitioned old nd op hop).2 r hr]
    exact hget r hr
  · rw [dataOps_eq]
    exact partOps_all_get (newRefs_nodup (maxPart old) nd 0 hok) hr

/-- the model is explicit about the one window the property does not cover: while `_metadata` itself
    is being rewritten ('wb' truncates at open) the dataset cannot be opened at all -/
theorem metadata_window_unreadable (partitioned : Bool) (fs : FS) (old : List RgRef) (nd : NewData) :
    readDS (runOps fs ((appendOps partitioned old nd).take ((dataOps partitioned (maxPart old) 0 nd).length + 1))) = none := by
  have : (appendOps partitioned old nd).take ((dataOps partitioned (maxPart old) 0 nd).length + 1)
      = dataOps partitioned (maxPart old) 0 nd ++ [.openW .pmeta] := by
    unfold appendOps
    rw [List.take_append, List.take_of_length_le (by omega)]
    simp [metaOps]
  rw [this, runOps_append]
  simp [runOps, applyOp, readDS, get_put_eq]

-- non-vacuity: a two-part dataset, an append of two row groups, crash after the first new part
example :
    let old : List RgRef := [⟨"", 0, [1, 2]⟩, ⟨"", 1, [3]⟩]
    let fs : FS := [(.pmeta, .refs old), (.part "" 0, .data [1, 2]), (.part "" 1, .data [3])]
    readDS (runOps fs ((appendOps false old [[("", [4])], [("", [5, 6])]]).take 4)) = some [1, 2, 3]
    ∧ readDS (runOps fs (appendOps false old [[("", [4])], [("", [5, 6])]])) = some [1, 2, 3, 4, 5, 6] := by
  decide

/-- the source as it stands (REGENERATED from `writer.find_max_part` / `write_multi`): the first new
    part number of an append is one more than the highest number the metadata references (0 for an
    empty dataset), computed from the dataset's whole row-group list — the `maxPart` of the model -/
theorem part_numbering_now : PqV.Gen.PartNumbering.rule = "maxPlusOne" ∧
    PqV.Gen.PartNumbering.offsetAssignments = ["i_offset=0", "i_offset=find_max_part(fmd.row_groups)"] := by decide

end PqV.Props.C19
