import PqV.Lemmas.KVarint
import PqV.Lemmas.Varint
import PqV.Impl.ThriftSer
import PqV.Lemmas.KBitpacked
import PqV.Lemmas.KHybrid
import PqV.Lemmas.KDelta
import PqV.Lemmas.KPlain
import PqV.Lemmas.KDeltaLoop
import PqV.Props.C11
/-!
# C12 — native code stays inside its buffers and the process never crashes
Model-level safety: the code-shaped models return an explicit `Fault` for every load or store
outside the buffer handed to the kernel and for every out-of-range shift; "safe" = no Fault.
-/
namespace PqV.Props.C12
open PqV.Spec PqV.Impl

/-- `read_unsigned_var_int` on any well-formed varint (any uint64), anywhere in a buffer, with or
    without bytes behind it: no out-of-bounds read, no shift ≥ 64, and it stops at the varint's end. -/
theorem readUvarint_safe (x : Nat) (hx : x < 2 ^ 64) (pre rest : List Nat) :
    ∃ r, readUvarint (pre ++ uvarintEnc x ++ rest) pre.length = .ok r ∧ r.2 = pre.length + uvarintLen x :=
  ⟨_, C11.readUvarint_refines x hx pre rest, rfl⟩

/-- the 10-byte scratch buffers of `encode_dict` / `make_definitions` are large enough: counts are
    checked to be < 2^31 (`check_32`), their header `(n << 1) | 1` is < 2^35, i.e. at most 5 bytes -/
theorem header_scratch_suffices (n : Nat) (h : n < 2 ^ 31) : uvarintLen (n * 2 + 1) ≤ 5 :=
  uvarintLen_le 5 (by decide) _ (by omega)

theorem length_prefix_scratch (n : Nat) (h : n < 2 ^ 32) : 4 + uvarintLen (n * 2 + 1) ≤ 10 := by
  have := uvarintLen_le 5 (by decide) (n * 2 + 1) (by omega)
  omega

/-- `read_rle` reads exactly `⌈w/8⌉` bytes: safe whenever they are there (and w ≤ 32) -/
theorem readRle_safe (buf : List Nat) (ip header w : Nat) (o : Out) (item : Nat)
    (hw : w ≤ 32) (hb : ip + (w + 7) / 8 ≤ buf.length) :
    ∃ r, readRle buf ip header w o item = .ok r := by
  obtain ⟨d, hd⟩ := rleData_ok buf ip ((w + 7) / 8) 0 0 (by omega) (by omega)
  simp [readRle, hd, bind, Except.bind]

/-- The serialiser's fixed buffer CAN be too small (known finding C10-overflow / C12-thrift-overflow):
    for EVERY `Statistics` whose `max` is at least 500000 bytes long the serialised form is longer than
    the buffer `to_bytes` allocates — the unchecked memcpy then writes past it. -/
theorem tobytes_overflows (bs : List Nat) (h : 500000 ≤ bs.length) :
    ∃ out, ThriftSer.toBytes (.dict .none [(1, .bytes bs)]) = some out ∧
      ThriftSer.toBytesSize "Statistics" (.dict .none [(1, .bytes bs)]) < out.length := by
  refine ⟨[0x18] ++ encodeUvarint bs.length ++ bs ++ [0], ?_, ?_⟩
  · simp [ThriftSer.toBytes, ThriftSer.PyT.weight, ThriftSer.weightEntries, ThriftSer.writeThrift, ThriftSer.writeFields,
      ThriftSer.lookup, PqV.Gen.Specs.loopHi, PqV.Gen.Specs.loopLo]
  · simp [ThriftSer.toBytesSize, PqV.Gen.Specs.sizeFloor]
    omega

/-- `read_bitpacked`, every width ≤ 24: any header, any position, any room in the output -/
theorem readBitpacked_safe (buf : List Nat) (hbytes : ∀ b ∈ buf, b < 256) (ip0 header w : Nat) (o : Out) (hw : w ≤ 24)
    (h0 : ip0 < buf.length) (hbuf : ip0 + (header / 2 * 8 * w + 7) / 8 ≤ buf.length) :
    ∃ r, readBitpacked buf ip0 header w o 4 = .ok r :=
  ⟨_, C11.readBitpacked_refines buf hbytes ip0 header w o hw h0 hbuf⟩

/-- `read_rle_bit_packed_hybrid`, widths 1..24, on every well-formed run stream -/
theorem readHybrid_safe (w : Nat) (hw1 : 1 ≤ w) (hw : w ≤ 24) (rs : List Run) (pre post : List Nat) (n : Nat)
    (hok : ∀ r ∈ rs, r.wf w = true ∧ RunOk r) (hpre : ∀ b ∈ pre, b < 256) (hpost : ∀ b ∈ post, b < 256)
    (hn : n ≤ (rs.flatMap Run.values).length) :
    ∃ r, readHybrid (pre ++ encodeRuns w rs ++ post) pre.length w (encodeRuns w rs).length { items := [], cap := 4 * n } 4 = .ok r := by
  obtain ⟨o', loc', h, _⟩ := readHybrid_runs w hw1 hw rs pre post { items := [], cap := 4 * n } hok
  exact ⟨_, h⟩

/-- `delta_read_bitpacked`, widths 1..28, any count, whenever the miniblock's bytes are there -/
theorem deltaReadBitpacked_safe (buf : List Nat) (hbytes : ∀ b ∈ buf, b < 256) (loc0 w n : Nat) (hw1 : 1 ≤ w) (hw : w ≤ 28)
    (hbuf : loc0 + (n * w + 7) / 8 ≤ buf.length) : ∃ r, deltaReadBitpacked buf loc0 w n = .ok r :=
  ⟨_, C11.deltaReadBitpacked_refines buf hbytes loc0 w n hw1 hw hbuf⟩

/-- `read_bitpacked1`: room for `count` items and `⌈count/8⌉` bytes present -/
theorem readBitpacked1_safe (buf : List Nat) (hbytes : ∀ b ∈ buf, b < 256) (ip count : Nat) (o : Out)
    (hcap : count ≤ o.cap) (hlen : ip + (count + 7) / 8 ≤ buf.length) : ∃ r, readBitpacked1 buf ip count o = .ok r :=
  ⟨_, readBitpacked1_refines buf hbytes ip count o hcap hlen⟩

/-- `unpack_byte_array` on every buffer a conforming PLAIN BYTE_ARRAY page can hold (each item shorter
    than 2^31 bytes).  A length prefix that points past the buffer is the known finding. -/
theorem unpackByteArray_safe (items : List (List Nat)) (hl : ∀ it ∈ items, it.length < 2 ^ 31) (pre tail : List Nat) :
    ∃ r, unpackByteArray (pre ++ packByteArray items ++ tail) pre.length items.length = .ok r :=
  ⟨_, unpackByteArray_roundtrip items hl pre tail⟩

/-- `delta_binary_unpack` on every conforming stream with miniblock widths ≤ 28 whose announced count
    is covered by its blocks: header, width bytes and packed miniblocks are read inside the buffer, the
    values are stored inside the output array (what does not fit is dropped by `write_int/long`), no
    out-of-range shift -/
theorem deltaBinaryUnpack_safe (pre post : List Nat) (longval : Bool) (blockSize mpb cnt : Nat) (first : Int) (blocks : List Block)
    (hbs : blockSize < 2 ^ 64) (hmpb64 : mpb < 2 ^ 64) (hfirst : okI64 first)
    (hmpb : 1 ≤ mpb) (hvpm : 1 ≤ blockSize / mpb) (hcnt1 : 1 ≤ cnt) (hcnt : cnt < 2 ^ 63)
    (hblocks : ∀ b ∈ blocks, BlockOk (blockSize / mpb) mpb b)
    (hroom : cnt ≤ blockSize / mpb * mpb * blocks.length)
    (hbytes : ∀ b ∈ pre ++ encStreamP blockSize mpb cnt first blocks ++ post, b < 256) :
    ∃ r, deltaBinaryUnpack (pre ++ encStreamP blockSize mpb cnt first blocks ++ post) pre.length cnt longval = .ok r := by
  obtain ⟨slots, loc', h, _⟩ := deltaBinaryUnpack_stream longval (at_mid pre _ post) hbs hmpb64 hfirst hmpb hvpm hcnt1 hcnt
    hblocks hroom
  exact ⟨_, h⟩

/-- `unpack_byte_array` over-reads at model level: a length prefix of 5 with 2 bytes behind it faults -/
example : unpackByteArray [5, 0, 0, 0, 1, 2] 0 1 = .error (.oobRead 8 6) := by decide

end PqV.Props.C12
