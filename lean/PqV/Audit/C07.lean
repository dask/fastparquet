import PqV.Props.C07
open PqV.Props.C07
#print axioms append_prefix
#print axioms append_layout
#print axioms fresh_part_numbers
#print axioms multi_no_touch
#print axioms append_cats_partial
#print axioms append_cats_fails
#print axioms appends_concatenate
#print axioms part_numbering_now
