import PqV.Props.C06
open PqV.Props.C06
#print axioms total_cons
#print axioms place_at
#print axioms fill_prefix
#print axioms buffer_is_concat
#print axioms slice_read
#print axioms iter_concat
#print axioms counts_agree
#print axioms headTake_spec
#print axioms head_correct
#print axioms head_empty
#print axioms head_initialised_now
#print axioms head_empty_fails_uninitialised
#print axioms forward_slice_sublist
#print axioms program_reads_whole_row_groups
#print axioms handle_state_now
