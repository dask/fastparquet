import PqV.Props.C08
open PqV.Props.C08
#print axioms mem_insertKey
#print axioms keysOf_cons
#print axioms mem_keysOf
#print axioms sorted_insertKey
#print axioms keys_sorted
#print axioms mem_groups
#print axioms group_key
#print axioms group_exact
#print axioms groups_nonempty
#print axioms length_filter_or
#print axioms sum_length_fibres
#print axioms rows_conserved
#print axioms splitOn_ne_nil
#print axioms splitOn_no_sep
#print axioms splitOn_append_sep
#print axioms split_join
#print axioms hive_rt
