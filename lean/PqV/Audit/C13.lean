import PqV.Props.C13
open PqV.Props.C13
#print axioms andPart_spec
#print axioms loop_spec
#print axioms column_filter_dnf
#print axioms flat_is_and
#print axioms row_filter_exact_partial
#print axioms or_partition_fails
#print axioms andPartRG_eq
#print axioms loopRG_eq
#print axioms row_filter_exact
#print axioms sliceSel_flatten
#print axioms keep_nil
#print axioms keep_cons
#print axioms selectPage_eq
#print axioms keep_append
#print axioms mask_pages
#print axioms select_page_exact
#print axioms count_is_length
#print axioms column_filter_shape_now
