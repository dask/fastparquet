import PqV.Props.C03
open PqV.Props.C03
#print axioms hybrid_any_runs
#print axioms dict_indices_any_runs
#print axioms dict_lookup_total
#print axioms cells_per_level
#print axioms page_split_independent
#print axioms values_in_order
#print axioms null_iff_below_max
#print axioms kernel_hybrid_any_runs
#print axioms delta_any_shape
#print axioms bitpacked_26_faults
#print axioms bitpacked_25_faults
#print axioms bitpacked_24_ok
#print axioms delta_bitpacked_29_faults
#print axioms delta_bitpacked_28_ok
#print axioms kernel_delta_any_stream
