import PqV.Props.C14
open PqV.Props.C14
#print axioms firstDiff_take
#print axioms take_prefix_of_take_eq
#print axioms step_prefix
#print axioms foldl_step_prefix
#print axioms paths_reconstruct
#print axioms root_reconstruct
#print axioms merge_rows
#print axioms merge_order
#print axioms merge_cats_partial
#print axioms merge_cats_fails
