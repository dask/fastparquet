import PqV.Props.C01
open PqV.Props.C01
#print axioms skip_matches_block
#print axioms block_value_now
#print axioms nullfree_block_decodes
#print axioms nullable_block_decodes
#print axioms int96_roundtrip
#print axioms unit_scaling_exact
#print axioms pages_concat
#print axioms writer_level_block_decodes
#print axioms ediv_pred
#print axioms range_index_regenerated_now
#print axioms old_stop_formula_short
#print axioms read_back_written_page
#print axioms read_guards_now
#print axioms read_back_written_column
#print axioms read_back_written_chunk_by_statistics
