import PqV.Props.C17
open PqV.Props.C17
#print axioms promotion_total
#print axioms nullable_names
#print axioms dtypes_source_now
#print axioms mayHaveNulls_false
#print axioms nullable_sound
#print axioms missing_null_count_unsound
#print axioms predict_never_plain
