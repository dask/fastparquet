import PqV.Props.C16
open PqV.Props.C16
#print axioms io_sequence
#print axioms truncates_now
#print axioms data_prefix_same
#print axioms still_valid
#print axioms loc_stable
#print axioms grow_valid_without_truncate
#print axioms shrink_fails_without_truncate
#print axioms kv_merge_one
#print axioms kv_merge_any_update
#print axioms any_update_sequence
#print axioms kv_rules_now
