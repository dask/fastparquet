import PqV.Props.C04
open PqV.Props.C04
#print axioms mem_presentVals
#print axioms optMin_some
#print axioms optMax_some
#print axioms colMin_eq
#print axioms colMax_eq
#print axioms min_exact
#print axioms max_exact
#print axioms no_bounds_iff_empty
#print axioms foldl_add
#print axioms null_count_exact
#print axioms bounds_independent_of_paging
#print axioms cat_branch_now
#print axioms cat_minmax_exact
#print axioms cat_minmax_fails_by_category_order
#print axioms chained_pairwise
#print axioms spc_sound
