import PqV.Props.C02
open PqV.Props.C02
#print axioms level_block_decodes
#print axioms plain_booleans_decode
#print axioms plain_fixed_decode
#print axioms plain_byte_arrays_decode
#print axioms dictionary_values_decode
#print axioms nulls_and_values
#print axioms accepted_pages_tile_the_chunk
#print axioms accepted_pages_count_rows
#print axioms accepted_pages_one_level_per_value
#print axioms framing_check_accepts_conforming
#print axioms written_chunk_decodes
#print axioms write_layout_now
#print axioms def_layout_now
#print axioms written_chunk_metadata_describes_pages
#print axioms written_plain_chunk_identity
