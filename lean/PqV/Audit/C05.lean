import PqV.Props.C05
open PqV.Props.C05
#print axioms filter_in_sound
#print axioms filter_val_sound
#print axioms pruning_loop_sound
#print axioms filter_not_in_sound_partial
#print axioms filter_not_in_fails
#print axioms filter_val_total
