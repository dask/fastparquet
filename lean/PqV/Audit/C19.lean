import PqV.Props.C19
open PqV.Props.C19
#print axioms never_opens_existing
#print axioms crash_before_meta
#print axioms parts_first_summary_last
#print axioms completed_append_reads_old_then_new
#print axioms metadata_window_unreadable
#print axioms part_numbering_now
