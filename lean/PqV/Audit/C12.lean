import PqV.Props.C12
open PqV.Props.C12
#print axioms readUvarint_safe
#print axioms header_scratch_suffices
#print axioms length_prefix_scratch
#print axioms readRle_safe
#print axioms tobytes_overflows
#print axioms readBitpacked_safe
#print axioms readHybrid_safe
#print axioms deltaReadBitpacked_safe
#print axioms readBitpacked1_safe
#print axioms unpackByteArray_safe
#print axioms deltaBinaryUnpack_safe
