import PqV.Props.C09
open PqV.Props.C09
#print axioms agree_init
#print axioms append_adds
#print axioms newRefs_content
#print axioms remove_exact
#print axioms append_fresh
#print axioms agree_after_every_history
#print axioms sort_names_total_and_neutral
#print axioms each_step_keeps_agreement
