import PqV.Props.C20
open PqV.Props.C20
#print axioms exec_inv
#print axioms inv_refl
#print axioms runAlone_congr
#print axioms runAlone_inv
#print axioms sched_step_obs
#print axioms noninterference_partial
#print axioms slice_breaks
#print axioms atomic_publish_safe
#print axioms noninterference
#print axioms finished_threads_observe_as_alone
#print axioms per_call_resources_now
