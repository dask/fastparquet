import PqV.Props.C10
open PqV.Props.C10
#print axioms field14_dropped
#print axioms tables_agree
#print axioms ids_agree
#print axioms specs_complete
#print axioms children_agree
#print axioms callsite_markers_ok
#print axioms narrow_fields
#print axioms spec_roundtrip_any_structure
#print axioms serialiser_lossless
#print axioms read_after_write
#print axioms roundtrip_same_reading
#print axioms reader_inverts_spec_encoder
