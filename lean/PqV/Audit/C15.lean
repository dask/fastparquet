import PqV.Props.C15
open PqV.Props.C15
#print axioms assemble_inverts_shredding
#print axioms pages_compose
#print axioms chain_by_started_records_now
#print axioms map_key_by_leaf_name_now
#print axioms nested_facts_recognised_now
#print axioms pages_of_whole_rows
#print axioms model_refines_assembly_partial
#print axioms continuation_with_value_ok
#print axioms continuation_without_value_fails
#print axioms page_only_continuation_ok
#print axioms level_tests_now
#print axioms required_iff_no_definition_levels
#print axioms maxRep_le_maxDef
