import PqV.Props.C18
open PqV.Props.C18
#print axioms multi_fail_intact
#print axioms upfront_no_effect
#print axioms simple_fail_fails
#print axioms simple_fail_rollback
#print axioms rolls_back_now
#print axioms rejected_attempts_invisible
