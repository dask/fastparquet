import PqV.Props.C11
open PqV.Props.C11
#print axioms spec_uvarint_rt
#print axioms spec_uvarint_bytes
#print axioms spec_uvarint_len
#print axioms encodeUvarint_refines
#print axioms readUvarint_refines
#print axioms uvarint_kernel_rt
#print axioms spec_zigzag_rt
#print axioms spec_zigzag_rt'
#print axioms zigzagLong_refines
#print axioms longZigzag_refines
#print axioms zigzag_kernel_roundtrip
#print axioms spec_bitpack_rt
#print axioms spec_bitpack_len
#print axioms spec_unpack_count
#print axioms readBitpacked_refines
#print axioms readBitpacked_values
#print axioms readRle_refines
#print axioms readHybrid_refines
#print axioms deltaReadBitpacked_refines
#print axioms readBitpacked1_refines
#print axioms readPlainBoolean_roundtrip
#print axioms unpackByteArray_roundtrip
#print axioms writerPackBools_is_spec
#print axioms deltaBinaryUnpack_refines
#print axioms widthFromMaxInt_refines
#print axioms encodeBitpacked_refines
#print axioms encodeBitpacked_decodes
#print axioms encodeBitpacked_whole_groups
