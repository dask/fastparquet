import PqV.Lemmas.KVarint
import PqV.Lemmas.Hybrid
import PqV.Lemmas.Wrap
/-! The writer-side kernel `encode_bitpacked` (cencoding.pyx 293-310) refines the specification's bit packing: loop
invariant over the `int32` accumulator (`bit` pending bits, `bits` their pattern, bytes drained so far), lifted to the
byte level with `leBytes`. -/
namespace PqV.Impl
open PqV.Spec

theorem add_mul_div_pow (k m x y : Nat) : (x + 256 ^ k * y) / 256 ^ (k + m) = (x / 256 ^ k + y) / 256 ^ m := by
  rw [Nat.pow_add, ← Nat.div_div_eq_div_mul, Nat.add_mul_div_left _ _ (Nat.pow_pos (by decide))]

theorem drain_eq (r : Nat) (hr : r < 8) : ∀ (k f bits : Nat) (acc : List Nat), k ≤ f → bits < 2 ^ 31 →
    encBpLoop.drain f ((r + 8 * k : Nat) : Int) bits acc = ((r : Int), bits / 256 ^ k, acc ++ leBytes k bits) := by
  intro k
  induction k with
  | zero =>
    intro f bits acc _ _
    have : ¬ (r : Int) ≥ 8 := by omega
    rw [Nat.mul_zero, Nat.add_zero, Nat.pow_zero, Nat.div_one, leBytes, List.append_nil]
    cases f <;> simp only [encBpLoop.drain, this, if_false]
  | succ k ih =>
    intro f bits acc hf hbits
    obtain ⟨f, rfl⟩ : ∃ f', f = f' + 1 := ⟨f - 1, by omega⟩
    have hge : ((r + 8 * (k + 1) : Nat) : Int) ≥ 8 := by omega
    -- `bits >>= 8` on the non-negative `int32`
    have e1 : wrapU 32 (wrapS 32 (bits : Int) / 256) = bits / 256 := by
      rw [wrapS_small 32 bits (by omega) (by simpa using hbits)]
      exact wrapU_of_eq 32 _ _ (by omega) (by omega)
    have e2 : ((r + 8 * (k + 1) : Nat) : Int) - 8 = ((r + 8 * k : Nat) : Int) := by omega
    unfold encBpLoop.drain
    rw [if_pos hge, e1, e2, ih f (bits / 256) _ (by omega) (by omega)]
    refine Prod.ext rfl (Prod.ext ?_ ?_)
    · simp only [Nat.pow_succ, Nat.div_div_eq_div_mul]; rw [Nat.mul_comm]
    · simp only [leBytes, List.append_assoc, List.singleton_append]

theorem encBpLoop_eq (w : Nat) (hw : w ≤ 24) : ∀ (vs : List Nat) (b bits : Nat) (acc : List Nat), b < 8 → bits < 2 ^ b →
    (∀ v ∈ vs, v < 2 ^ w) →
    encBpLoop w vs (b : Int) bits acc =
      .ok (acc ++ leBytes ((b + vs.length * w) / 8) (bits + 2 ^ b * packNat w vs),
           (((b + vs.length * w) % 8 : Nat) : Int),
           (bits + 2 ^ b * packNat w vs) / 256 ^ ((b + vs.length * w) / 8)) := by
  intro vs
  induction vs with
  | nil =>
    intro b bits acc hb _ _
    have h0 : b / 8 = 0 := by omega
    have h1 : b % 8 = b := by omega
    simp [encBpLoop, packNat, h0, h1, leBytes]
  | cons v vs ih =>
    intro b bits acc hb hbits hv
    have hvw : v < 2 ^ w := hv v (by simp)
    -- `k` whole bytes leave the accumulator, `r` bits stay
    obtain ⟨k, r, hr8, hk⟩ : ∃ k r, r < 8 ∧ b + w = r + 8 * k := ⟨(b + w) / 8, (b + w) % 8, Nat.mod_lt _ (by decide), by omega⟩
    have hp : 2 ^ b * 2 ^ w = 256 ^ k * 2 ^ r := by
      rw [← Nat.pow_add, hk, Nat.add_comm, Nat.pow_add, Nat.mul_comm 8, pow256]
    have hbits1 : bits + v * 2 ^ b < 256 ^ k * 2 ^ r := by
      rw [← hp]
      calc bits + v * 2 ^ b < 2 ^ b + v * 2 ^ b := by omega
        _ = 2 ^ b * (v + 1) := by ring
        _ ≤ 2 ^ b * 2 ^ w := Nat.mul_le_mul_left _ (by omega)
    -- at most 7 pending bits and a value of 24 leave bit 31 clear: `drain_eq` needs the `int32` non-negative
    have h31 : 256 ^ k * 2 ^ r ≤ 2 ^ 31 := by
      rw [← hp, ← Nat.pow_add]; exact Nat.pow_le_pow_right (by omega) (by omega)
    have hc : ¬ ((b : Int) ≥ 32 ∨ (b : Int) < 0) := by omega
    have e0 : (bits ||| ((v % 2 ^ 32) <<< (b : Int).toNat)) % 2 ^ 32 = bits + v * 2 ^ b := by
      have hw24 : 2 ^ w ≤ 2 ^ 24 := Nat.pow_le_pow_right (by omega) hw
      rw [Nat.mod_eq_of_lt (by omega : v < 2 ^ 32), Int.toNat_natCast, or_shiftLeft _ _ _ hbits, Nat.mul_comm]
      exact Nat.mod_eq_of_lt (by omega)
    have e1 : (b : Int) + (w : Int) = ((r + 8 * k : Nat) : Int) := by omega
    have hT : bits + 2 ^ b * packNat w (v :: vs) = (bits + v * 2 ^ b) + 256 ^ k * (2 ^ r * packNat w vs) := by
      simp only [packNat, Nat.mod_eq_of_lt hvw]
      rw [Nat.mul_add, ← Nat.mul_assoc, hp]; ring
    have hq : (b + (v :: vs).length * w) / 8 = k + (r + vs.length * w) / 8 := by
      simp only [List.length_cons, Nat.add_mul, Nat.one_mul]; omega
    have hr' : (b + (v :: vs).length * w) % 8 = (r + vs.length * w) % 8 := by
      simp only [List.length_cons, Nat.add_mul, Nat.one_mul]; omega
    unfold encBpLoop
    rw [if_neg hc]
    simp only [e0, e1, drain_eq r hr8 k 8 (bits + v * 2 ^ b) acc (by omega) (by omega)]
    rw [ih r _ _ hr8 ((Nat.div_lt_iff_lt_mul (Nat.pow_pos (by decide))).mpr (by rwa [Nat.mul_comm (256 ^ k)] at hbits1))
      (fun x hx => hv x (by simp [hx])), hq, hr', hT, leBytes_add_mul, add_mul_div_pow, List.append_assoc]

/-- `w ≤ 24`: the `int32` accumulator holds at most 7 pending bits plus one value.  The last group is NOT padded to a
    whole group. -/
theorem encodeBitpacked_eq (w : Nat) (hw : w ≤ 24) (vals : List Nat) (hv : ∀ v ∈ vals, v < 2 ^ w) (hn : vals.length < 2 ^ 31) :
    encodeBitpacked vals w = .ok (uvarintEnc ((vals.length + 7) / 8 * 2 + 1) ++ packLE w vals) := by
  unfold encodeBitpacked
  have h := encBpLoop_eq w hw vals 0 0 [] (by omega) (by simp) hv
  simp only [Nat.cast_zero] at h
  have h' : encBpLoop w vals 0 0 [] = _ := h
  simp only [bind, Except.bind, h']
  rw [encodeUvarint_eq _ (by omega)]
  simp only [Nat.zero_add, Nat.pow_zero, Nat.one_mul, List.nil_append, List.append_assoc]
  congr 2
  unfold packLE
  generalize packNat w vals = T
  generalize vals.length * w = L
  by_cases h0 : L % 8 = 0
  · have : (L + 7) / 8 = L / 8 := by omega
    simp [h0, this]
  · have : (L + 7) / 8 = L / 8 + 1 := by omega
    have hne : ((L % 8 : Nat) : Int) ≠ 0 := by omega
    rw [this, leBytes_add, if_pos hne]
    simp [leBytes]

/-- what `encode_bitpacked` writes is read back by the specification, whatever bytes follow: the header announces
    `⌈n/8⌉` groups and the first `n` values of the payload are the input (the missing part of a short last group is
    whatever follows — which is why a writer must pad, see C02's framing rule). -/
theorem encodeBitpacked_decodes (w : Nat) (hw : w ≤ 24) (vals tail : List Nat) (hv : ∀ v ∈ vals, v < 2 ^ w) (hn : vals.length < 2 ^ 31) :
    ∃ out payload, encodeBitpacked vals w = .ok out ∧
      uvarintDec (out ++ tail) = some ((vals.length + 7) / 8 * 2 + 1, payload) ∧ unpackLE w vals.length payload = vals := by
  refine ⟨_, packLE w vals ++ tail, encodeBitpacked_eq w hw vals hv hn, ?_, unpackLE_packLE_append w vals tail hv⟩
  rw [List.append_assoc]
  exact uvarint_rt _ _

/-- for whole groups the kernel's output IS the specification's bit-packed run, so the hybrid decoder returns the input -/
theorem encodeBitpacked_whole_groups (w : Nat) (hw : w ≤ 24) (vals tail : List Nat) (hv : ∀ v ∈ vals, v < 2 ^ w) (hn : vals.length < 2 ^ 31)
    (h8 : vals.length % 8 = 0) :
    encodeBitpacked vals w = .ok (encodeRun w (.bp vals)) ∧ decodeHybrid w vals.length (encodeRun w (.bp vals) ++ tail) = vals := by
  constructor
  · rw [encodeBitpacked_eq w hw vals hv hn]
    have : (vals.length + 7) / 8 = vals.length / 8 := by omega
    simp [encodeRun, this]
  · have := decodeHybrid_encodeRuns w vals.length [.bp vals] tail
      (by intro r hr; simp at hr; subst hr; simp [Run.wf, h8]; exact hv) (by simp [Run.values])
    simpa [encodeRuns, Run.values] using this
end PqV.Impl
