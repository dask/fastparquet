import PqV.Impl.Access
/-! Lemmas about slicing and picking row groups of a handle, for `Props/C06` (they stand in that property's namespace). -/
namespace PqV.Props.C06
open PqV.Impl.Access

theorem getSlice_mem (rgs : List RG) (a b : Option Int) (k : Int) : ∀ rg ∈ getSlice rgs a b k, rg ∈ rgs := by
  intro rg h
  simp only [getSlice, List.mem_filterMap] at h
  obtain ⟨i, _, hi⟩ := h
  exact List.mem_of_getElem? hi

theorem getInt_mem {rgs out : List RG} {i : Int} (h : getInt rgs i = some out) : ∀ rg ∈ out, rg ∈ rgs := by
  simp only [getInt] at h
  by_cases hj : (if i < 0 then i + (rgs.length : Int) else i) < 0
  · rw [if_pos hj] at h; cases h
  · rw [if_neg hj, Option.map_eq_some_iff] at h
    obtain ⟨r, hr, rfl⟩ := h
    intro rg hrg
    exact List.mem_singleton.mp hrg ▸ List.mem_of_getElem? hr

theorem applySel_mem {rgs out : List RG} {s : Sel} (h : applySel rgs s = some out) : ∀ rg ∈ out, rg ∈ rgs := by
  cases s with
  | slice a b k => cases h; exact getSlice_mem rgs a b k
  | pick i => exact getInt_mem h

theorem runSels_mem {rgs : List RG} {sels : List Sel} {out : List RG} (h : runSels rgs sels = some out) :
    ∀ rg ∈ out, rg ∈ rgs := by
  refine List.foldlRecOn (motive := fun acc => ∀ out, acc = some out → ∀ rg ∈ out, rg ∈ rgs) sels _ ?_ ?_ out h
  · rintro _ ⟨⟩ rg hrg; exact hrg
  · intro acc ih s _ out h
    obtain ⟨mid, hm, hout⟩ := Option.bind_eq_some_iff.mp h
    exact fun rg hrg => ih mid hm rg (applySel_mem hout rg hrg)

theorem range_filterMap_getElem (rgs : List RG) : (List.range rgs.length).filterMap (fun i => rgs[i]?) = rgs := by
  induction rgs with
  | nil => rfl
  | cons a l ih => simpa [List.range_succ_eq_map, List.filterMap_map, Function.comp_def] using ih

end PqV.Props.C06
