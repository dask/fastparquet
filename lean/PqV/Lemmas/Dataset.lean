import PqV.Impl.Dataset
import Mathlib.Data.List.Nodup
import Mathlib.Tactic.Linarith
/-! Both directory models (`Impl.Dataset.FS` and the `files` of `Impl.DatasetOps.DS`) are association lists:
    read by `find? (·.1 == q)`, written by consing after filtering the key out, deleted from by filtering. -/
namespace PqV
variable {α β : Type} [BEq α] [LawfulBEq α]

theorem find?_key_filter (l : List (α × β)) (p : α × β → Bool) (q : α) (h : ∀ f : α × β, f.1 = q → p f = true) :
    (l.filter p).find? (·.1 == q) = l.find? (·.1 == q) := by
  rw [List.find?_filter]
  congr 1
  funext f
  by_cases e : f.1 = q
  · simp [e, h f e]
  · simp [e]

theorem find?_key_put (l : List (α × β)) (k q : α) (v : β) (h : q ≠ k) :
    ((k, v) :: l.filter (·.1 != k)).find? (·.1 == q) = l.find? (·.1 == q) := by
  rw [List.find?_cons_of_neg (by simpa using Ne.symm h)]
  exact find?_key_filter l _ q fun f e => by simpa [e] using h

end PqV

namespace PqV.Impl.Dataset

theorem get_put_ne (fs : FS) (p q : Path) (c : Content) (h : q ≠ p) : (fs.put p c).get q = fs.get q :=
  congrArg (Option.map Prod.snd) (find?_key_put fs p q c h)

theorem get_put_eq (fs : FS) (p : Path) (c : Content) : (fs.put p c).get p = some c := by
  simp [FS.put, FS.get]

/-- the path an operation writes to (creates, truncates or fills) -/
def target : FsOp → Option Path
  | .mkdir _ => none
  | .openW p => some p
  | .write p _ => some p
  | .close _ => none

theorem applyOp_get {fs : FS} {op : FsOp} {q : Path} (h : target op ≠ some q) :
    (applyOp fs op).get q = fs.get q := by
  cases op with
  | mkdir d => rfl
  | close p => rfl
  | openW p => exact get_put_ne fs p q _ fun e => h (congrArg some e.symm)
  | write p c => exact get_put_ne fs p q _ fun e => h (congrArg some e.symm)

theorem runOps_get {fs : FS} {ops : List FsOp} {q : Path} (h : ∀ op ∈ ops, target op ≠ some q) :
    (runOps fs ops).get q = fs.get q :=
  List.foldlRecOn ops applyOp (motive := fun fs' => fs'.get q = fs.get q) rfl
    fun _ ih op hop => (applyOp_get (h op hop)).trans ih

theorem maxPart_le_iff {N : Nat} {refs : List RgRef} : maxPart refs ≤ N ↔ ∀ r ∈ refs, r.id < N := by
  induction refs with
  | nil => simp [maxPart]
  | cons r rs ih => rw [maxPart, List.forall_mem_cons, ← ih]; omega

theorem partOps_targets {partitioned : Bool} {d : String} {id : Nat} {rows : List Nat} {op : FsOp} {p : Path}
    (hop : op ∈ partOps partitioned d id rows) (hp : target op = some p) : p = .part d id := by
  simp only [partOps, List.mem_append] at hop
  rcases hop with hop | hop
  · split at hop
    · cases List.mem_singleton.mp hop; cases hp
    · cases hop
  · simp only [List.mem_cons, List.mem_nil_iff, or_false] at hop
    rcases hop with rfl | rfl | rfl <;> cases hp <;> rfl

theorem newRefs_id {off : Nat} {nd : NewData} {i : Nat} {r : RgRef} (h : r ∈ newRefs off i nd) :
    i + off ≤ r.id ∧ r.id < i + off + nd.length := by
  induction nd generalizing i with
  | nil => cases h
  | cons pieces rest ih =>
    rw [List.length_cons]
    rcases List.mem_append.mp h with h | h
    · obtain ⟨⟨d, rows⟩, _, rfl⟩ := List.mem_map.mp h
      exact ⟨Nat.le_refl _, Nat.lt_add_of_pos_right (Nat.succ_pos _)⟩
    · have := ih h
      omega

theorem newRefs_fresh (old : List RgRef) (nd : NewData) :
    ∀ r' ∈ newRefs (maxPart old) 0 nd, ∀ r ∈ old, r.id < r'.id := by
  intro r' hr' r hr
  have := maxPart_le_iff.mp (Nat.le_refl _) r hr
  have := newRefs_id hr'
  omega

theorem newRefs_fresh_path (old : List RgRef) (nd : NewData) :
    ∀ r' ∈ newRefs (maxPart old) 0 nd, ∀ r ∈ old, (r'.dir, r'.id) ≠ (r.dir, r.id) :=
  fun r' hr' r hr e => Nat.ne_of_gt (newRefs_fresh old nd r' hr' r hr) (congrArg Prod.snd e)

theorem newRefs_nodup (off : Nat) (nd : NewData) (i : Nat) (h : ∀ pieces ∈ nd, (pieces.map (·.1)).Nodup) :
    ((newRefs off i nd).map fun r => (r.dir, r.id)).Nodup := by
  induction nd generalizing i with
  | nil => simp [newRefs]
  | cons pieces rest ih =>
    simp only [newRefs, List.map_append, List.map_map]
    refine List.nodup_append.mpr ⟨?_, ih (i + 1) fun p hp => h p (List.mem_cons_of_mem _ hp), fun a ha b hb e => ?_⟩
    · refine List.Nodup.of_map Prod.fst ?_
      simpa [List.map_map, Function.comp_def] using h pieces List.mem_cons_self
    · -- this row group's pieces carry number `i + off`, the later ones higher numbers
      obtain ⟨p, _, rfl⟩ := List.mem_map.mp ha
      obtain ⟨r, hr, rfl⟩ := List.mem_map.mp hb
      have := newRefs_id hr
      have : i + off = r.id := congrArg Prod.snd e
      omega

theorem dataOps_eq (partitioned : Bool) (offset : Nat) (nd : NewData) (i : Nat) :
    dataOps partitioned offset i nd
      = (newRefs offset i nd).flatMap fun r => partOps partitioned r.dir r.id r.rows := by
  induction nd generalizing i with
  | nil => rfl
  | cons pieces rest ih => simp [dataOps, newRefs, List.flatMap_append, List.flatMap_map, ih]

theorem dataOps_targets {partitioned : Bool} {offset : Nat} {nd : NewData} {i : Nat} {op : FsOp} {p : Path}
    (hop : op ∈ dataOps partitioned offset i nd) (hp : target op = some p) : ∃ r ∈ newRefs offset i nd, p = .part r.dir r.id := by
  rw [dataOps_eq, List.mem_flatMap] at hop
  obtain ⟨r, hr, hop⟩ := hop
  exact ⟨r, hr, partOps_targets hop hp⟩

theorem newRefs_written (partitioned : Bool) {offset : Nat} {nd : NewData} {i : Nat} {r : RgRef} (hr : r ∈ newRefs offset i nd) :
    ∃ op ∈ dataOps partitioned offset i nd, target op = some (.part r.dir r.id) := by
  refine ⟨.write (.part r.dir r.id) (.data r.rows), ?_, rfl⟩
  rw [dataOps_eq, List.mem_flatMap]
  exact ⟨r, hr, by simp [partOps]⟩

def rowsOf (refs : List RgRef) : List Nat := refs.flatMap (·.rows)

theorem readRefs_eq_some {fs : FS} {refs : List RgRef} {rows : List Nat} :
    readRefs fs refs = some rows ↔
      (∀ r ∈ refs, fs.get (.part r.dir r.id) = some (.data r.rows)) ∧ rows = rowsOf refs := by
  induction refs generalizing rows with
  | nil => simp [readRefs, rowsOf, eq_comm]
  | cons r rs ih =>
    rw [readRefs]
    constructor
    · intro h
      split at h
      · next rows' rest hg hr =>
        split at h
        · next e =>
          obtain ⟨h1, h2⟩ := ih.mp hr
          injection h with h
          exact ⟨List.forall_mem_cons.mpr ⟨e ▸ hg, h1⟩, by simp [rowsOf, ← h, ← e, h2]⟩
        · cases h
      · cases h
    · rintro ⟨h, rfl⟩
      rw [h r List.mem_cons_self, ih.mpr ⟨fun x hx => h x (List.mem_cons_of_mem _ hx), rfl⟩]
      simp [rowsOf]

theorem readRefs_congr (fs fs' : FS) (refs : List RgRef)
    (h : ∀ r ∈ refs, fs'.get (.part r.dir r.id) = fs.get (.part r.dir r.id)) :
    readRefs fs' refs = readRefs fs refs :=
  Option.ext fun rows => by
    rw [readRefs_eq_some, readRefs_eq_some]
    exact and_congr_left' (forall₂_congr fun r hr => by rw [h r hr])

theorem runOps_append (fs : FS) (a b : List FsOp) : runOps fs (a ++ b) = runOps (runOps fs a) b :=
  List.foldl_append

theorem metaOps_targets (refs : List RgRef) : ∀ op ∈ metaOps refs, ∀ d i, target op ≠ some (.part d i) := by
  intro op hop d i
  simp only [metaOps, List.mem_cons, List.mem_nil_iff, or_false] at hop
  rcases hop with rfl | rfl | rfl | rfl | rfl | rfl <;> simp [target]

theorem metaOps_pmeta (fs : FS) (refs : List RgRef) : (runOps fs (metaOps refs)).get .pmeta = some (.refs refs) := by
  simp only [metaOps, runOps, List.foldl_cons, List.foldl_nil, applyOp]
  rw [get_put_ne _ .cmeta .pmeta _ (by decide), get_put_ne _ .cmeta .pmeta _ (by decide), get_put_eq]

theorem metaOps_part (fs : FS) (refs : List RgRef) (d : String) (i : Nat) :
    (runOps fs (metaOps refs)).get (.part d i) = fs.get (.part d i) :=
  runOps_get fun op hop => metaOps_targets refs op hop d i

/-- the operations leave alone everything a reader of the row groups `old` looks at: `_metadata` and
    the part files they name -/
def Avoids (old : List RgRef) (ops : List FsOp) : Prop :=
  ∀ op ∈ ops, target op ≠ some .pmeta ∧ ∀ r ∈ old, target op ≠ some (.part r.dir r.id)

theorem Avoids.take {old : List RgRef} {ops : List FsOp} (h : Avoids old ops) (k : Nat) : Avoids old (ops.take k) :=
  fun op hop => h op (List.mem_of_mem_take hop)

theorem dataOps_avoids (partitioned : Bool) (old : List RgRef) (nd : NewData) :
    Avoids old (dataOps partitioned (maxPart old) 0 nd) := by
  intro op hop
  refine ⟨fun heq => ?_, fun r hr heq => ?_⟩
  · obtain ⟨_, _, hp⟩ := dataOps_targets hop heq
    cases hp
  · obtain ⟨r', hr', hp⟩ := dataOps_targets hop heq
    have := newRefs_fresh old nd r' hr' r hr
    injection hp with _ h2
    omega

theorem appendOps_untouched (partitioned : Bool) (old : List RgRef) (nd : NewData) :
    ∀ op ∈ appendOps partitioned old nd, ∀ r ∈ old, target op ≠ some (.part r.dir r.id) := by
  intro op hop r hr
  rcases List.mem_append.mp hop with hop | hop
  · exact (dataOps_avoids partitioned old nd op hop).2 r hr
  · exact metaOps_targets _ op hop r.dir r.id

/-- two filesystems a reader cannot tell apart: the same `_metadata`, and the same content in every file it references -/
def Agree (fs fs' : FS) : Prop :=
  fs.get .pmeta = fs'.get .pmeta ∧
  ∀ refs, fs.get .pmeta = some (.refs refs) → ∀ r ∈ refs, fs.get (.part r.dir r.id) = fs'.get (.part r.dir r.id)

theorem Agree.refl (fs : FS) : Agree fs fs := ⟨rfl, fun _ _ _ _ => rfl⟩

theorem readDS_agree {fs fs' : FS} (h : Agree fs fs') : readDS fs = readDS fs' := by
  unfold readDS
  rw [← h.1]
  cases hm : fs.get .pmeta with
  | none => rfl
  | some c =>
    cases c with
    | refs rgs => exact readRefs_congr fs' fs rgs (fun r hr => h.2 rgs hm r hr)
    | data _ => rfl
    | torn => rfl

theorem Agree.avoids {fs fs' : FS} {old : List RgRef} {ops : List FsOp} (h : Agree fs fs')
    (hm : fs.get .pmeta = some (.refs old)) (ha : Avoids old ops) : Agree (runOps fs ops) fs' := by
  have hpm : (runOps fs ops).get .pmeta = fs.get .pmeta := runOps_get fun op hop => (ha op hop).1
  refine ⟨hpm.trans h.1, fun refs hrefs r hr => ?_⟩
  rw [hpm, hm] at hrefs
  cases hrefs
  rw [runOps_get fun op hop => (ha op hop).2 r hr]
  exact h.2 old hm r hr

/-- well-formed new data: within one incoming row group every piece goes to its own directory -/
def NdOk (nd : NewData) : Prop := ∀ pieces ∈ nd, (pieces.map (·.1)).Nodup

theorem partOps_get (fs : FS) (partitioned : Bool) (d : String) (id : Nat) (rows : List Nat) :
    (runOps fs (partOps partitioned d id rows)).get (.part d id) = some (.data rows) := by
  cases partitioned <;> simp [partOps, runOps, applyOp, get_put_eq]

theorem partOps_all_get {partitioned : Bool} {refs : List RgRef} {fs : FS} (hnd : (refs.map fun r => (r.dir, r.id)).Nodup)
    {r : RgRef} (hr : r ∈ refs) :
    (runOps fs (refs.flatMap fun r => partOps partitioned r.dir r.id r.rows)).get (.part r.dir r.id) = some (.data r.rows) := by
  induction refs generalizing fs with
  | nil => cases hr
  | cons x xs ih =>
    rw [List.map_cons, List.nodup_cons] at hnd
    rw [List.flatMap_cons, runOps_append]
    rcases List.mem_cons.mp hr with rfl | hin
    · -- the later files are other files
      rw [runOps_get]
      · exact partOps_get fs partitioned r.dir r.id r.rows
      · intro op hop heq
        obtain ⟨y, hy, hop⟩ := List.mem_flatMap.mp hop
        injection partOps_targets hop heq with h1 h2
        exact hnd.1 (List.mem_map.mpr ⟨y, hy, by rw [h1, h2]⟩)
    · exact ih hnd.2 hin

end PqV.Impl.Dataset
