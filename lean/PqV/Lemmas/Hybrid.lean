import PqV.Spec.Hybrid
import PqV.Lemmas.Varint
import PqV.Lemmas.Bits
/-! Round trip of the RLE / bit-packing hybrid at specification level: whatever mixture of runs a
conforming writer chooses, `decodeHybrid` returns the values the runs stand for. -/
namespace PqV.Spec

theorem encodeRuns_cons (w : Nat) (r : Run) (rs : List Run) :
    encodeRuns w (r :: rs) = encodeRun w r ++ encodeRuns w rs := by
  simp [encodeRuns]

def Run.header : Run → Nat
  | .rle c _ => c * 2
  | .bp vs => vs.length / 8 * 2 + 1
def Run.payload (w : Nat) : Run → List Nat
  | .rle _ v => leBytes ((w + 7) / 8) v
  | .bp vs => packLE w vs

theorem encodeRun_eq (w : Nat) (r : Run) : encodeRun w r = uvarintEnc r.header ++ r.payload w := by
  cases r <;> rfl

theorem uvarintDec_encodeRun (w : Nat) (r : Run) (tail : List Nat) :
    uvarintDec (encodeRun w r ++ tail) = some (r.header, r.payload w ++ tail) := by
  rw [encodeRun_eq, List.append_assoc]
  exact uvarint_rt _ _

theorem Run.wf_rle {w c v : Nat} (h : (Run.rle c v).wf w = true) : v < 2 ^ w := by
  simpa [Run.wf] using h

theorem Run.wf_bp {w : Nat} {vs : List Nat} (h : (Run.bp vs).wf w = true) :
    vs.length % 8 = 0 ∧ ∀ v ∈ vs, v < 2 ^ w := by
  simpa [Run.wf] using h

theorem decodeHybridAux_run (w : Nat) (r : Run) (hwf : r.wf w = true) (fuel n : Nat) (tail acc : List Nat)
    (hacc : ¬ acc.length ≥ n) :
    decodeHybridAux w (fuel + 1) n (encodeRun w r ++ tail) acc = decodeHybridAux w fuel n tail (acc ++ r.values) := by
  conv => lhs; unfold decodeHybridAux
  simp only [hacc, if_false, uvarintDec_encodeRun]
  cases r with
  | rle c v =>
    have hc : c * 2 % 2 = 0 := by omega
    have hc2 : c * 2 / 2 = c := by omega
    simp only [Run.header, Run.payload, Run.values, hc, if_true, hc2, take_leBytes_append, drop_leBytes_append,
      leNat_leBytes_lt (Nat.lt_of_lt_of_le (Run.wf_rle hwf) (pow_le_256 w))]
  | bp vs =>
    obtain ⟨h8, hv⟩ := Run.wf_bp hwf
    have hlen := packLE_length_groups w vs h8
    have hc : (vs.length / 8 * 2 + 1) % 2 ≠ 0 := by omega
    have hc2 : (vs.length / 8 * 2 + 1) / 2 = vs.length / 8 := by omega
    simp only [Run.header, Run.payload, Run.values, hc, if_false, hc2, List.take_left' hlen, List.drop_left' hlen,
      show vs.length / 8 * 8 = vs.length by omega, unpackLE_packLE w vs hv]

theorem decodeHybridAux_done (w fuel : Nat) {n : Nat} (bs : List Nat) {acc : List Nat} (h : acc.length ≥ n) :
    (decodeHybridAux w fuel n bs acc).take n = acc.take n := by
  cases fuel <;> simp only [decodeHybridAux, h, if_true, List.take_take, Nat.min_self]

theorem decodeHybridAux_runs (w : Nat) (rs : List Run) (hwf : ∀ r ∈ rs, r.wf w = true) :
    ∀ (fuel n : Nat) (tail acc : List Nat), rs.length < fuel →
      n ≤ acc.length + (rs.flatMap Run.values).length →
      (decodeHybridAux w fuel n (encodeRuns w rs ++ tail) acc).take n
        = (acc ++ rs.flatMap Run.values).take n := by
  induction rs with
  | nil =>
    intro fuel n tail acc _ hn
    rw [decodeHybridAux_done w fuel _ (by simpa using hn), List.flatMap_nil, List.append_nil]
  | cons r rs ih =>
    intro fuel n tail acc hf hn
    by_cases hacc : acc.length ≥ n
    · rw [decodeHybridAux_done w fuel _ hacc, List.take_append_of_le_length hacc]
    · obtain ⟨f, rfl⟩ : ∃ f, fuel = f + 1 := ⟨fuel - 1, by omega⟩
      rw [encodeRuns_cons, List.append_assoc, decodeHybridAux_run w r (hwf r List.mem_cons_self) f n _ acc hacc,
        ih (fun x hx => hwf x (List.mem_cons_of_mem _ hx)) f n tail (acc ++ r.values) (by simpa using hf)
          (by simp only [List.flatMap_cons, List.length_append] at hn ⊢; omega),
        List.flatMap_cons, List.append_assoc]

theorem encodeRun_length_pos (w : Nat) (r : Run) : 0 < (encodeRun w r).length := by
  rw [encodeRun_eq, List.length_append]
  exact Nat.lt_of_lt_of_le (uvarintEnc_length_pos _) (Nat.le_add_right _ _)

theorem encodeRuns_length_ge (w : Nat) (rs : List Run) : rs.length ≤ (encodeRuns w rs).length :=
  length_le_flatMap (encodeRun_length_pos w) rs

theorem decodeHybrid_encodeRuns (w n : Nat) (rs : List Run) (tail : List Nat)
    (hwf : ∀ r ∈ rs, r.wf w = true) (hn : n ≤ (rs.flatMap Run.values).length) :
    decodeHybrid w n (encodeRuns w rs ++ tail) = (rs.flatMap Run.values).take n := by
  unfold decodeHybrid
  have hf : rs.length < (encodeRuns w rs ++ tail).length + 1 := by
    have := encodeRuns_length_ge w rs
    simp only [List.length_append]; omega
  have := decodeHybridAux_runs w rs hwf _ n tail [] hf (by simpa using hn)
  simpa using this

theorem hybridCompleteAux_run (w : Nat) (r : Run) (hwf : r.wf w = true) (fuel n : Nat) (tail : List Nat) (got : Nat)
    (hgot : ¬ got ≥ n) :
    hybridCompleteAux w (fuel + 1) n (encodeRun w r ++ tail) got = hybridCompleteAux w fuel n tail (got + r.values.length) := by
  conv => lhs; unfold hybridCompleteAux
  simp only [hgot, if_false, uvarintDec_encodeRun]
  cases r with
  | rle c v =>
    have hc : c * 2 % 2 = 0 := by omega
    have hc2 : c * 2 / 2 = c := by omega
    simp only [Run.header, Run.payload, Run.values, hc, if_true, hc2, drop_leBytes_append, List.length_append, leBytes_length,
      Nat.le_add_right, decide_true, Bool.true_and, List.length_replicate]
  | bp vs =>
    have hlen := packLE_length_groups w vs (Run.wf_bp hwf).1
    have hc : (vs.length / 8 * 2 + 1) % 2 ≠ 0 := by omega
    have hc2 : (vs.length / 8 * 2 + 1) / 2 = vs.length / 8 := by omega
    simp only [Run.header, Run.payload, Run.values, hc, if_false, hc2, List.drop_left' hlen, List.length_append, hlen,
      Nat.le_add_right, decide_true, Bool.true_and, show vs.length / 8 * 8 = vs.length by have := (Run.wf_bp hwf).1; omega]

theorem hybridCompleteAux_runs (w : Nat) (rs : List Run) (hwf : ∀ r ∈ rs, r.wf w = true) :
    ∀ (fuel n : Nat) (tail : List Nat) (got : Nat), rs.length < fuel →
      n ≤ got + (rs.flatMap Run.values).length →
      hybridCompleteAux w fuel n (encodeRuns w rs ++ tail) got = true := by
  induction rs with
  | nil =>
    intro fuel n tail got hf hn
    obtain ⟨f, rfl⟩ : ∃ f, fuel = f + 1 := ⟨fuel - 1, by omega⟩
    have hn' : got ≥ n := by simpa using hn
    simp only [hybridCompleteAux, hn', if_true]
  | cons r rs ih =>
    intro fuel n tail got hf hn
    obtain ⟨f, rfl⟩ : ∃ f, fuel = f + 1 := ⟨fuel - 1, by omega⟩
    by_cases hgot : got ≥ n
    · simp only [hybridCompleteAux, hgot, if_true]
    · rw [encodeRuns_cons, List.append_assoc, hybridCompleteAux_run w r (hwf r List.mem_cons_self) f n _ got hgot]
      exact ih (fun x hx => hwf x (List.mem_cons_of_mem _ hx)) f n tail _ (by simpa using hf)
        (by simp only [List.flatMap_cons, List.length_append] at hn ⊢; omega)

theorem hybridTight_encodeRuns (w n : Nat) (rs : List Run) (tail : List Nat)
    (hwf : ∀ r ∈ rs, r.wf w = true) (hn : n ≤ (rs.flatMap Run.values).length) :
    hybridTight w n (encodeRuns w rs ++ tail) = true := by
  unfold hybridTight
  have hf : rs.length < (encodeRuns w rs ++ tail).length + 1 := by
    have := encodeRuns_length_ge w rs
    simp only [List.length_append]; omega
  exact hybridCompleteAux_runs w rs hwf _ n tail 0 hf (by simpa using hn)

/-- the framing check rejects a run whose announced payload is cut: a bit-packed run of one group of
    8-bit values with 7 bytes behind the header -/
example : hybridTight 8 7 [3, 0, 1, 2, 0, 1, 2, 0] = false := by decide
example : hybridTight 8 7 [3, 0, 1, 2, 0, 1, 2, 0, 0] = true := by decide

end PqV.Spec
