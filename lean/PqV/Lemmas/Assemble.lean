import PqV.Lemmas.Dremel
import PqV.Impl.Assemble
/-! Refinement of the code-shaped model of `_assemble_objects` / `read_col`'s page chaining
(`Impl.Assemble`) to record assembly.  The loop is run symbolically on explicit states: one entry, the
elements of a row, a row, the rows of a page; then one call on one page, and the chaining.
A state is written `⟨assign, i, part, vali, started, haveNull⟩` (`Impl.Assemble.St`): the slot array, the slot of the open row, its cells so
far, the position in the values, whether a row has started, whether the open row is null.  In the row lemmas the array is
`committed ++ suf`: the rows stored so far, then the open row's slot followed by the free slots. -/
namespace PqV.Impl.Assemble
open PqV.Spec

def lv (es : List Entry) : List (Nat × Nat) := es.map fun e => (e.d, e.r)

def nonNull (cs : List Cell) : List Cell := cs.filter fun c => decide (c ≠ Cell.null)

theorem lv_append (a b : List Entry) : lv (a ++ b) = lv a ++ lv b := by simp [lv]

theorem loop_eq_foldlM (null : Bool) (maxDef : Nat) (vals : List Cell) (l : List (Nat × Nat)) (s : St) :
    loop null maxDef vals l s = l.foldlM (fun s x => step null maxDef vals s x.1 x.2) s := by
  induction l generalizing s with
  | nil => rfl
  | cons x xs ih =>
    rw [List.foldlM_cons, loop]
    cases step null maxDef vals s x.1 x.2 <;> simp [ih, bind, Except.bind]

theorem loop_append (null : Bool) (maxDef : Nat) (vals : List Cell) (a b : List (Nat × Nat)) (s : St) :
    loop null maxDef vals (a ++ b) s =
      match loop null maxDef vals a s with
      | .error f => .error f
      | .ok s' => loop null maxDef vals b s' := by
  simp only [loop_eq_foldlM, List.foldlM_append]
  cases List.foldlM (m := A) _ s a <;> rfl

/-- schema side conditions: `o` levels above the repeated group (0 or 1), `null` says which -/
structure Sch (o maxDef : Nat) (null : Bool) : Prop where
  o_le : o ≤ 1
  null_eq : null = decide (o = 1)
  md : o < maxDef

def cellOk (o maxDef : Nat) (c : Cell) : Prop := c = Cell.null → o + 2 ≤ maxDef

theorem Sch.null_level {o maxDef : Nat} {null : Bool} (h : Sch o maxDef null) : (if null then 1 else 0) = o := by
  obtain ⟨ho, rfl, _⟩ := h
  rcases Nat.le_one_iff_eq_zero_or_eq_one.mp ho with rfl | rfl <;> rfl

/-- the kernel's `have_null` test `de == 0 and null` says that the row is null -/
theorem Sch.haveNull {o maxDef : Nat} {null : Bool} (h : Sch o maxDef null) (d : Nat) : ((d == 0) && null) = decide (d < o) := by
  obtain ⟨ho, rfl, _⟩ := h
  rcases Nat.le_one_iff_eq_zero_or_eq_one.mp ho with rfl | rfl
  · simp
  · cases d <;> simp

/-- one iteration, on any entry that is null below the maximum level, from the state the flush leaves;
    `vals` is split at `vali` -/
theorem loop_entry {o maxDef : Nat} {null : Bool} (h : Sch o maxDef null) {vals : List Cell} (e : Entry) (es : List Entry)
    (rest : List (Nat × Nat)) {s : St} {a : List Row} {i : Nat} {part pre post : List Cell} {st hn : Bool}
    (hc : e.d ≠ maxDef → e.c = Cell.null)
    (hf : flush s e.r = .ok ⟨a, i, part, pre.length, st, hn⟩)
    (hvals : vals = pre ++ valuesOf maxDef (e :: es) ++ post) :
    loop null maxDef vals (lv (e :: es) ++ rest) s = loop null maxDef vals (lv es ++ rest)
      ⟨a, i, if o < e.d then part ++ [e.c] else part, (pre ++ valuesOf maxDef [e]).length, st, decide (e.d < o)⟩ := by
  have hmd := h.md
  simp only [lv, List.map_cons, List.cons_append, loop, step, hf, addElem, h.null_level, h.haveNull]
  rw [valuesOf_cons, valuesOf_singleton] at hvals
  by_cases hd : e.d = maxDef
  · have hv : vals[pre.length]? = some e.c := by simp [hvals, hd]
    simp [hd, hv, hmd, valuesOf_singleton]
  · by_cases hlt : o < e.d <;> simp [hd, hc hd, hlt, valuesOf_singleton]

theorem flush_cont (s : St) {r : Nat} (hr : r ≠ 0) : flush s r = .ok s := by simp [flush, hr]

theorem loop_elems {o maxDef : Nat} {null : Bool} (h : Sch o maxDef null) {vals : List Cell} (rest : List (Nat × Nat))
    {a : List Row} {i : Nat} {post : List Cell} {st : Bool} :
    ∀ (cs : List Cell) (c : Cell) (r : Nat) (s : St) (part pre : List Cell) (hn : Bool) (es : List Entry),
      es = elemEntry maxDef r c :: cs.map (elemEntry maxDef 1) → (∀ x ∈ c :: cs, cellOk o maxDef x) →
      flush s r = .ok ⟨a, i, part, pre.length, st, hn⟩ → vals = pre ++ valuesOf maxDef es ++ post →
      loop null maxDef vals (lv es ++ rest) s
        = loop null maxDef vals rest ⟨a, i, part ++ c :: cs, (pre ++ valuesOf maxDef es).length, st, false⟩ := by
  intro cs
  induction cs with
  | nil =>
    rintro c r s part pre hn _ rfl hok hf hvals
    have hd := elemEntry_d_gt h.md (hok c List.mem_cons_self) r
    rw [List.map_nil, loop_entry h _ [] rest elemEntry_d_ne hf hvals]
    simp [hd, Nat.lt_asymm hd, lv]
  | cons c' cs ih =>
    rintro c r s part pre hn _ rfl hok hf hvals
    have hd := elemEntry_d_gt h.md (hok c List.mem_cons_self) r
    rw [List.map_cons] at hvals ⊢
    rw [loop_entry h _ _ rest elemEntry_d_ne hf hvals]
    rw [valuesOf_cons maxDef _ (_ :: _), ← List.append_assoc pre] at hvals ⊢
    rw [ih c' 1 _ _ _ _ _ rfl (fun x hx => hok x (List.mem_cons_of_mem _ hx)) (flush_cont _ Nat.one_ne_zero) hvals]
    simp [hd]

theorem loop_row {o maxDef : Nat} {null : Bool} (h : Sch o maxDef null) {vals : List Cell} (rest : List (Nat × Nat))
    (row : Row) (hok : row.ok o maxDef = true) {s : St} {a : List Row} {i : Nat} {pre post : List Cell} {st hn : Bool}
    (hf : flush s 0 = .ok ⟨a, i, [], pre.length, st, hn⟩)
    (hvals : vals = pre ++ valuesOf maxDef (encodeRow o maxDef row) ++ post) :
    ∃ part hn', (if hn' = true then Row.none else Row.list part) = row ∧
      loop null maxDef vals (lv (encodeRow o maxDef row) ++ rest) s
        = loop null maxDef vals rest ⟨a, i, part, (pre ++ valuesOf maxDef (encodeRow o maxDef row)).length, st, hn'⟩ := by
  match row with
  | .none =>
    have ho : o - 1 < o := Nat.sub_lt (Row.ok_none.mp hok) Nat.one_pos
    refine ⟨[], true, rfl, ?_⟩
    rw [encodeRow, loop_entry h _ [] rest (fun _ => rfl) hf hvals]
    simp [ho, Nat.lt_asymm ho, lv]
  | .list [] =>
    refine ⟨[], false, rfl, ?_⟩
    rw [encodeRow, loop_entry h _ [] rest (fun _ => rfl) hf hvals]
    simp [lv]
  | .list (c :: cs) =>
    refine ⟨c :: cs, false, rfl, ?_⟩
    exact loop_elems h rest cs c 0 s [] pre hn _ rfl (Row.ok_list.mp hok) hf hvals

theorem setSlot_at (pre : List Row) (x r : Row) (suf : List Row) :
    setSlot (pre ++ x :: suf) pre.length r = .ok (pre ++ r :: suf) := by
  simp [setSlot]

theorem flush_started (committed : List Row) (x : Row) (suf : List Row) (part : List Cell) (k : Nat) (hn : Bool) :
    flush ⟨committed ++ x :: suf, committed.length, part, k, true, hn⟩ 0
      = .ok ⟨committed ++ [if hn then Row.none else Row.list part] ++ suf,
          (committed ++ [if hn then Row.none else Row.list part]).length, [], k, true, hn⟩ := by
  simp [flush, setSlot_at]

/-- every row start stores the row before it, so the last row is still open when the loop ends: the
    store that follows the loop completes `committed ++ r0 :: rs` -/
theorem loop_rows {o maxDef : Nat} {null : Bool} (h : Sch o maxDef null) {vals post : List Cell} :
    ∀ (rs : List Row) (r0 : Row) (s : St) (committed suf : List Row) (pre : List Cell) (hn : Bool),
      (∀ r ∈ r0 :: rs, r.ok o maxDef = true) →
      flush s 0 = .ok ⟨committed ++ suf, committed.length, [], pre.length, true, hn⟩ → rs.length < suf.length →
      vals = pre ++ valuesOf maxDef (encodeRows o maxDef (r0 :: rs)) ++ post →
      ∃ s', loop null maxDef vals (lv (encodeRows o maxDef (r0 :: rs))) s = .ok s' ∧ s'.started = true ∧
        s'.i = committed.length + rs.length ∧
        setSlot s'.assign s'.i (if s'.haveNull then Row.none else Row.list s'.part)
          = .ok (committed ++ r0 :: rs ++ suf.drop (rs.length + 1)) := by
  intro rs
  induction rs with
  | nil =>
    intro r0 s committed suf pre hn hok hf hlen hvals
    obtain ⟨x, suf, rfl⟩ := List.exists_cons_of_length_pos hlen
    rw [encodeRows_cons, encodeRows, List.flatMap_nil, List.append_nil] at hvals ⊢
    obtain ⟨part, hn', hrow, hl⟩ := loop_row h [] r0 (hok r0 List.mem_cons_self) hf hvals
    rw [List.append_nil] at hl
    exact ⟨_, hl, rfl, rfl, by simp [hrow, setSlot_at]⟩
  | cons r1 rs ih =>
    intro r0 s committed suf pre hn hok hf hlen hvals
    obtain ⟨x, suf, rfl⟩ := List.exists_cons_of_length_pos (Nat.zero_lt_of_lt hlen)
    rw [encodeRows_cons, valuesOf_append, ← List.append_assoc pre] at hvals
    rw [encodeRows_cons, lv_append]
    obtain ⟨part, hn', hrow, hl⟩ := loop_row h (lv (encodeRows o maxDef (r1 :: rs))) r0 (hok r0 List.mem_cons_self) hf
      (hvals.trans (List.append_assoc ..))
    obtain ⟨s', hl', hst, hi, hset⟩ := ih r1 _ (committed ++ [r0]) suf _ hn' (fun r hr => hok r (List.mem_cons_of_mem _ hr))
      (hrow ▸ flush_started committed x suf part _ hn') (by simpa using hlen) hvals
    exact ⟨s', hl.trans hl', hst, by simp [hi]; omega, by simpa using hset⟩

def pageOf (o maxDef : Nat) (p : List Row) : List (Nat × Nat) × List Cell :=
  (lv (encodeRows o maxDef p), valuesOf maxDef (encodeRows o maxDef p))

/-- a page as `read_col` sees it: first the continuation of the previous page's last row (`frag`,
    possibly empty), then whole rows (the last of which may be continued by the next page) -/
structure Page where
  frag : List Cell
  rows : List Row

def Page.entries (o maxDef : Nat) (p : Page) : List Entry :=
  p.frag.map (elemEntry maxDef 1) ++ encodeRows o maxDef p.rows

def gpageOf (o maxDef : Nat) (p : Page) : List (Nat × Nat) × List Cell :=
  (lv (p.entries o maxDef), valuesOf maxDef (p.entries o maxDef))

/-- record assembly of a continuation: the cells join the last row -/
def extendLast (rows : List Row) (frag : List Cell) : List Row :=
  match rows.getLast? with
  | some (Row.list es) => rows.dropLast ++ [Row.list (es ++ frag)]
  | _ => rows

def joinPage (acc : List Row) (p : Page) : List Row := extendLast acc p.frag ++ p.rows

theorem extendLast_snoc (pre : List Row) (es frag : List Cell) :
    extendLast (pre ++ [Row.list es]) frag = pre ++ [Row.list (es ++ frag)] := by
  simp [extendLast]

theorem extendLast_nil (rows : List Row) : extendLast rows [] = rows := by
  unfold extendLast
  split
  · next es h => obtain ⟨ys, rfl⟩ := List.getLast?_eq_some_iff.mp h; simp
  · rfl

theorem length_extendLast (rows : List Row) (frag : List Cell) : (extendLast rows frag).length = rows.length := by
  unfold extendLast
  split
  · next es h => obtain ⟨ys, rfl⟩ := List.getLast?_eq_some_iff.mp h; simp
  · rfl

theorem extendPrev_at (pre : List Row) (es part : List Cell) (suf : List Row) :
    extendPrev (pre ++ Row.list es :: suf) (pre.length + 1) part = .ok (pre ++ Row.list (es ++ part) :: suf) := by
  have h1 : (pre.length : Int) < pre.length + (suf.length + 1) := by omega
  simp [extendPrev, h1]

theorem flush_first (a : List Row) (i : Nat) (hn : Bool) :
    flush ⟨a, i, [], 0, false, hn⟩ 0 = .ok ⟨a, i, [], 0, true, hn⟩ := by
  simp [flush]

theorem flush_frag (pre : List Row) (es part : List Cell) (suf : List Row) {k : Nat} (hk : 0 < k) (hn : Bool) :
    flush ⟨pre ++ Row.list es :: suf, pre.length + 1, part, k, false, hn⟩ 0
      = .ok ⟨pre ++ Row.list (es ++ part) :: suf, pre.length + 1, [], k, true, hn⟩ := by
  simp [flush, hk, extendPrev_at]

theorem valuesOf_elems {maxDef : Nat} (hmd : 0 < maxDef) (r : Nat) (l : List Cell) :
    valuesOf maxDef (l.map (elemEntry maxDef r)) = nonNull l := by
  have : ∀ c, ((elemEntry maxDef r c).d == maxDef) = decide (c ≠ Cell.null) := by
    intro c; by_cases hc : c = Cell.null <;> simp [elemEntry, hc]; omega
  simp only [valuesOf, nonNull, List.filter_map, Function.comp_def, this, List.map_map]
  simp [elemEntry]

theorem loop_frag {o maxDef : Nat} {null : Bool} (h : Sch o maxDef null) {vals : List Cell} (rest : List (Nat × Nat))
    (frag : List Cell) (hfc : ∀ c ∈ frag, cellOk o maxDef c) (a : List Row) (i : Nat) {post : List Cell}
    (hvals : vals = valuesOf maxDef (frag.map (elemEntry maxDef 1)) ++ post) :
    loop null maxDef vals (lv (frag.map (elemEntry maxDef 1)) ++ rest) ⟨a, i, [], 0, false, false⟩
      = loop null maxDef vals rest ⟨a, i, frag, (valuesOf maxDef (frag.map (elemEntry maxDef 1))).length, false, false⟩ := by
  match frag with
  | [] => rfl
  | c :: cs => exact loop_elems h rest cs c 1 _ [] [] false _ rfl hfc (flush_cont _ Nat.one_ne_zero) hvals

theorem assembleObjects_of_loop {assign : List Row} {levels : List (Nat × Nat)} {vals : List Cell} {null : Bool}
    {maxDefi prevI : Nat} {s : St} {a : List Row}
    (hl : loop null maxDefi vals levels ⟨assign, prevI, [], 0, false, false⟩ = .ok s)
    (hend : (if s.started then setSlot s.assign s.i (if s.haveNull then Row.none else Row.list s.part)
      else extendPrev s.assign s.i s.part) = .ok a) :
    assembleObjects assign levels vals null maxDefi prevI = .ok (a, s.i) := by
  simp only [assembleObjects, hl, bind, Except.bind, pure, Except.pure]
  split at hend <;> simp [*]

/-- `prev_i` is the number of rows stored so far.  The index `_assemble_objects` returns is that of the
    last row only if the page starts one. -/
theorem assembleObjects_page {o maxDef : Nat} {null : Bool} (h : Sch o maxDef null) (p : Page) (acc suf : List Row)
    (hcase : (p.frag = [] ∧ p.rows ≠ []) ∨ (nonNull p.frag ≠ [] ∧ ∃ pre es, acc = pre ++ [Row.list es]))
    (hfc : ∀ c ∈ p.frag, cellOk o maxDef c) (hok : ∀ r ∈ p.rows, r.ok o maxDef = true)
    (hlen : p.rows.length ≤ suf.length) :
    assembleObjects (acc ++ suf) (gpageOf o maxDef p).1 (gpageOf o maxDef p).2 null maxDef acc.length
      = .ok (joinPage acc p ++ suf.drop p.rows.length,
             acc.length + p.rows.length - (if p.rows = [] then 0 else 1)) := by
  obtain ⟨frag, rows⟩ := p
  simp only [gpageOf, Page.entries, lv_append, valuesOf_append, joinPage] at hcase hfc hok hlen ⊢
  have hfrag := loop_frag h (lv (encodeRows o maxDef rows)) frag hfc (acc ++ suf) acc.length rfl
    (post := valuesOf maxDef (encodeRows o maxDef rows))
  match rows, hcase with
  | [], .inr ⟨_, pre, es, hacc⟩ =>
    subst hacc
    refine (assembleObjects_of_loop hfrag (by simpa using extendPrev_at pre es frag suf)).trans ?_
    simp [extendLast_snoc]
  | r0 :: rs, hcase =>
    -- the first row start joins `frag` to the last row stored, if there is a `frag`
    have hflush : flush ⟨acc ++ suf, acc.length, frag, (valuesOf maxDef (frag.map (elemEntry maxDef 1))).length, false, false⟩ 0
        = .ok ⟨extendLast acc frag ++ suf, (extendLast acc frag).length, [],
            (valuesOf maxDef (frag.map (elemEntry maxDef 1))).length, true, false⟩ := by
      rcases hcase with ⟨rfl, _⟩ | ⟨hfv, pre, es, rfl⟩
      · simpa [extendLast_nil, valuesOf] using flush_first (acc ++ suf) acc.length false
      · rw [← valuesOf_elems (Nat.zero_lt_of_lt h.md) 1] at hfv
        simpa [extendLast_snoc] using flush_frag pre es frag suf (List.length_pos_iff.mpr hfv) false
    obtain ⟨s', hl, hst, hi, hset⟩ := loop_rows h (post := []) rs r0 _ _ suf _ false hok hflush hlen (List.append_nil _).symm
    refine (assembleObjects_of_loop (hfrag.trans hl) ((if_pos hst).trans hset)).trans ?_
    simp [hi, length_extendLast]

theorem spec_page {o maxDef : Nat} (hmd : o < maxDef) {acc : List Row} {p : Page}
    (hfrag : p.frag = [] ∨ ∃ pre es, acc = pre ++ [Row.list es]) (hok : ∀ r ∈ p.rows, r.ok o maxDef = true) :
    (p.entries o maxDef).foldl (pushEntry o) acc = joinPage acc p := by
  simp only [Page.entries, List.foldl_append, joinPage]
  rcases hfrag with hf | ⟨pre, es, rfl⟩
  · rw [hf, extendLast_nil]
    exact foldl_encodeRows hmd hok acc
  · rw [foldl_conts, extendLast_snoc]
    exact foldl_encodeRows hmd hok _

/-- pages the kernel handles: a page either starts at a row start, or the continuation it starts
    with carries at least one value and continues a non-null row -/
def PagesOk (o maxDef : Nat) : List Row → List Page → Prop
  | _, [] => True
  | acc, p :: ps =>
    ((p.frag = [] ∧ p.rows ≠ []) ∨ (nonNull p.frag ≠ [] ∧ ∃ pre es, acc = pre ++ [Row.list es])) ∧
    (∀ c ∈ p.frag, cellOk o maxDef c) ∧ (∀ r ∈ p.rows, r.ok o maxDef = true) ∧
    PagesOk o maxDef (joinPage acc p) ps

def newRows (pages : List Page) : Nat := (pages.map (·.rows.length)).sum

theorem zeros_encodeRows (o maxDef : Nat) (rows : List Row) :
    ((lv (encodeRows o maxDef rows)).filter (·.2 == 0)).length = rows.length := by
  induction rows with
  | nil => rfl
  | cons r rs ih =>
    have hr : ((lv (encodeRow o maxDef r)).filter (·.2 == 0)).length = 1 := by
      match r with
      | .none | .list [] => rfl
      | .list (c :: cs) => simp [encodeRow, lv, Function.comp_def]
    rw [encodeRows_cons, lv_append, List.filter_append, List.length_append, hr, ih, List.length_cons, Nat.add_comm]

theorem zeros_gpage (o maxDef : Nat) (p : Page) :
    ((gpageOf o maxDef p).1.filter (·.2 == 0)).length = p.rows.length := by
  rw [gpageOf, Page.entries, lv_append, List.filter_append, List.length_append, zeros_encodeRows]
  simp [lv, Function.comp_def]

/-- the last hypothesis: advancing the row index by `1 + result` (the code before the repair) is right
    as long as every page starts a row -/
theorem readPages_general {o maxDef : Nat} {null : Bool} (h : Sch o maxDef null) :
    ∀ (pages : List Page) (acc suf : List Row), PagesOk o maxDef acc pages → newRows pages ≤ suf.length →
      (PqV.Gen.Nested.chainByZeros = true ∨ ∀ p ∈ pages, p.rows ≠ []) →
      readPages null maxDef (pages.map (gpageOf o maxDef)) (acc ++ suf) acc.length
        = .ok (pages.foldl joinPage acc ++ suf.drop (newRows pages)) := by
  intro pages
  induction pages with
  | nil => intro acc suf _ _ _; simp [readPages, pure, Except.pure, newRows]
  | cons p ps ih =>
    intro acc suf ⟨hcase, hfc, hrows, hrest⟩ hlen hz
    simp only [newRows, List.map_cons, List.sum_cons] at hlen
    have hnext : (if PqV.Gen.Nested.chainByZeros = true then acc.length + ((gpageOf o maxDef p).1.filter (·.2 == 0)).length
        else acc.length + p.rows.length - (if p.rows = [] then 0 else 1) + 1) = (joinPage acc p).length := by
      rw [zeros_gpage, joinPage, List.length_append, length_extendLast]
      rcases hz with hz | hz
      · rw [if_pos hz]
      · have := List.length_pos_iff.mpr (hz p List.mem_cons_self)
        rw [if_neg (hz p List.mem_cons_self)]; split <;> omega
    simp only [List.map_cons, readPages, List.foldl_cons, bind, Except.bind,
      assembleObjects_page h p acc suf hcase hfc hrows (by omega), hnext]
    rw [ih (joinPage acc p) _ hrest (by simp [newRows]; omega) (hz.imp_right fun hz q hq => hz q (List.mem_cons_of_mem _ hq))]
    simp [newRows]

theorem spec_pages {o maxDef : Nat} (hmd : o < maxDef) :
    ∀ (pages : List Page) (acc : List Row), PagesOk o maxDef acc pages →
      (pages.flatMap (·.entries o maxDef)).foldl (pushEntry o) acc = pages.foldl joinPage acc := by
  intro pages
  induction pages with
  | nil => intro acc _; rfl
  | cons p ps ih =>
    intro acc ⟨hcase, _, hrows, hrest⟩
    rw [List.flatMap_cons, List.foldl_append, List.foldl_cons,
      spec_page hmd (hcase.imp And.left And.right) hrows]
    exact ih _ hrest

theorem readChunk_refines_partial {o maxDef : Nat} {null : Bool} (h : Sch o maxDef null) {pages : List Page}
    (hz : PqV.Gen.Nested.chainByZeros = true ∨ ∀ p ∈ pages, p.rows ≠ []) (hok : PagesOk o maxDef [] pages) :
    readChunk (newRows pages) null maxDef (pages.map (gpageOf o maxDef))
      = .ok (assemble o (pages.flatMap (·.entries o maxDef))) := by
  have h1 := readPages_general h pages [] (List.replicate (newRows pages) Row.none) hok (by simp) hz
  rw [assemble, spec_pages h.md pages [] hok, readChunk]
  simpa using h1

theorem wholeRows {o maxDef : Nat} : ∀ (pages : List (List Row)) (acc : List Row),
    (∀ p ∈ pages, p ≠ [] ∧ ∀ r ∈ p, r.ok o maxDef = true) →
    PagesOk o maxDef acc (pages.map (Page.mk [])) ∧ newRows (pages.map (Page.mk [])) = pages.flatten.length ∧
      (pages.map (Page.mk [])).flatMap (·.entries o maxDef) = encodeRows o maxDef pages.flatten := by
  intro pages
  induction pages with
  | nil => intro _ _; exact ⟨trivial, rfl, rfl⟩
  | cons p ps ih =>
    intro acc hp
    obtain ⟨h1, h2, h3⟩ := ih (joinPage acc ⟨[], p⟩) fun q hq => hp q (List.mem_cons_of_mem _ hq)
    refine ⟨⟨.inl ⟨rfl, (hp p List.mem_cons_self).1⟩, by simp, (hp p List.mem_cons_self).2, h1⟩, ?_, ?_⟩
    · simpa [newRows] using h2
    · simpa [encodeRows, Page.entries] using h3

end PqV.Impl.Assemble
