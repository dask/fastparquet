import PqV.Spec.Dremel
/-! Record assembly (Spec.Dremel): the shredding round trip. -/
namespace PqV.Spec

@[simp] theorem elemEntry_r (maxDef r : Nat) (c : Cell) : (elemEntry maxDef r c).r = r := rfl
@[simp] theorem elemEntry_c (maxDef r : Nat) (c : Cell) : (elemEntry maxDef r c).c = c := rfl

theorem push_cont (o : Nat) (acc : List Row) (es : List Cell) (e : Entry) (hr : e.r ≠ 0) :
    pushEntry o (acc ++ [Row.list es]) e = acc ++ [Row.list (es ++ [e.c])] := by
  simp [pushEntry, hr]

theorem foldl_conts (o maxDef : Nat) (acc : List Row) (cs : List Cell) :
    ∀ es, (cs.map (elemEntry maxDef 1)).foldl (pushEntry o) (acc ++ [Row.list es]) = acc ++ [Row.list (es ++ cs)] := by
  induction cs with
  | nil => intro es; simp
  | cons c cs ih =>
    intro es
    rw [List.map_cons, List.foldl_cons, push_cont o acc es _ (by simp), ih]
    simp

theorem Row.ok_none {o maxDef : Nat} : Row.none.ok o maxDef = true ↔ 1 ≤ o := by simp [Row.ok]

theorem Row.ok_list {o maxDef : Nat} {es : List Cell} :
    (Row.list es).ok o maxDef = true ↔ ∀ c ∈ es, c = Cell.null → o + 2 ≤ maxDef := by
  simp only [Row.ok, List.all_eq_true, Bool.or_eq_true, decide_eq_true_eq]
  exact forall₂_congr fun c _ => Decidable.imp_iff_not_or.symm

theorem elemEntry_d_gt {o maxDef : Nat} {c : Cell} (h1 : o < maxDef) (h2 : c = Cell.null → o + 2 ≤ maxDef) (r : Nat) :
    o < (elemEntry maxDef r c).d := by
  unfold elemEntry
  by_cases hc : c = Cell.null
  · simp only [hc, if_true]; have := h2 hc; omega
  · simp only [hc, if_false]; exact h1

theorem elemEntry_d_ne {maxDef r : Nat} {c : Cell} (h : (elemEntry maxDef r c).d ≠ maxDef) : c = Cell.null := by
  by_cases hc : c = Cell.null
  · exact hc
  · simp [elemEntry, hc] at h

theorem foldl_encodeRow {o maxDef : Nat} (h1 : o < maxDef) (acc : List Row) {row : Row} (hok : row.ok o maxDef = true) :
    (encodeRow o maxDef row).foldl (pushEntry o) acc = acc ++ [row] := by
  match row with
  | .none =>
    have : o - 1 < o := Nat.sub_lt (Row.ok_none.mp hok) Nat.one_pos
    simp [encodeRow, pushEntry, rowStart, this]
  | .list [] => simp [encodeRow, pushEntry, rowStart]
  | .list (c :: cs) =>
    have hd := elemEntry_d_gt h1 (Row.ok_list.mp hok c List.mem_cons_self) 0
    have hstart : pushEntry o acc (elemEntry maxDef 0 c) = acc ++ [Row.list [c]] := by
      simp [pushEntry, rowStart, Nat.lt_asymm hd, Nat.ne_of_gt hd]
    rw [encodeRow, List.foldl_cons, hstart, foldl_conts]
    rfl

theorem encodeRows_cons (o maxDef : Nat) (r : Row) (rs : List Row) :
    encodeRows o maxDef (r :: rs) = encodeRow o maxDef r ++ encodeRows o maxDef rs := rfl

theorem foldl_encodeRows {o maxDef : Nat} (h1 : o < maxDef) {rows : List Row} (hok : ∀ r ∈ rows, r.ok o maxDef = true) :
    ∀ acc, (encodeRows o maxDef rows).foldl (pushEntry o) acc = acc ++ rows := by
  induction rows with
  | nil => intro acc; simp [encodeRows]
  | cons r rs ih =>
    intro acc
    rw [encodeRows_cons, List.foldl_append, foldl_encodeRow h1 acc (hok r List.mem_cons_self),
      ih (fun x hx => hok x (List.mem_cons_of_mem _ hx)), List.append_assoc]
    rfl

theorem valuesOf_append (m : Nat) (a b : List Entry) : valuesOf m (a ++ b) = valuesOf m a ++ valuesOf m b := by
  simp [valuesOf]

theorem valuesOf_cons (m : Nat) (e : Entry) (es : List Entry) :
    valuesOf m (e :: es) = valuesOf m [e] ++ valuesOf m es := valuesOf_append m [e] es

theorem valuesOf_singleton (m : Nat) (e : Entry) : valuesOf m [e] = if e.d = m then [e.c] else [] := by
  by_cases h : e.d = m <;> simp [valuesOf, h]

end PqV.Spec
