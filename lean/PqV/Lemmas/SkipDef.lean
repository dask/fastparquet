/-
  The reader's shortcut over a null-free definition-level block (`skip_definition_bytes`, constants
  REGENERATED from core.py) steps over exactly the block `make_definitions` writes (layout REGENERATED from writer.py).
-/
import PqV.Impl.ReadPage
import PqV.Lemmas.Varint
namespace PqV.Impl
open PqV.Spec PqV.Gen.SkipDef

/-- bytes of the null-free definition-level block `make_definitions` writes for `num` rows
    (constants regenerated from writer.py): length prefix, varint(num << shift), the value byte -/
def blockLen (num : Nat) : Nat := lenPrefix + uvarintLen (num <<< shift) + 1

/-- a varint has one byte and then one per round of `while n: …; n //= 128` on what is left; `fuel` only has to outlast the loop -/
theorem varint_iters : ∀ (fuel m : Nat), m / 128 < fuel → uvarintLen m = 1 + iters 128 fuel (m / 128)
  | 0, m, h => by omega
  | f + 1, m, h => by
    rw [uvarintLen_eq]
    by_cases hm : m < 128
    · have : m / 128 = 0 := by omega
      simp [hm, this, iters]
    · have hd : m / 128 ≠ 0 := by omega
      simp only [hm, if_false, iters, hd]
      rw [varint_iters f (m / 128) (by omega)]

theorem skipLen_eq_blockLen (num : Nat) : skipLen num = blockLen num := by
  simp only [skipLen, blockLen, base, step, shrink, div, lenPrefix, shift, Nat.shiftLeft_eq, Nat.pow_one, Nat.one_mul]
  rw [varint_iters (num + 1) (num * 2) (by omega)]
  have : num * 2 / 128 = num / 64 := by omega
  rw [this]
  omega

end PqV.Impl
