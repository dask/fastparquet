import PqV.Impl.Kernels
import PqV.Lemmas.Varint
import PqV.Lemmas.Bits
import PqV.Lemmas.Wrap
/-! The code-shaped varint kernels refine `Spec.Varint`; `At`, the position of a reader in its buffer. -/
namespace PqV.Impl
open PqV.Spec

theorem and7F (b : Nat) : b &&& 0x7F = b % 128 := Nat.and_two_pow_sub_one_eq_mod b 7

theorem or80 (a : Nat) (h : a < 128) : a ||| 0x80 = a + 128 := or_shiftLeft a 1 7 h

theorem and80 : ∀ b, b < 256 → ((b &&& 0x80 = 0) ↔ b < 128) := by decide +kernel

theorem encodeUvarintLoop_eq (fuel x : Nat) (acc : List Nat) (h : x < 2 ^ (7 * fuel)) (hf : 1 ≤ fuel) :
    encodeUvarintLoop fuel x acc = acc ++ uvarintEnc x := by
  induction fuel generalizing x acc with
  | zero => omega
  | succ f ih =>
    unfold encodeUvarintLoop uvarintEnc
    by_cases hx : x > 127
    · have hx' : ¬ x < 128 := by omega
      simp only [hx, hx', if_true, if_false]
      by_cases hf0 : f = 0
      · subst hf0; simp at h; omega
      · rw [ih _ _ (div128_lt h) (by omega), and7F, or80 _ (Nat.mod_lt _ (by decide))]
        simp
    · have hx' : x < 128 := by omega
      simp only [hx, hx', if_true, if_false]
      congr 2
      omega

theorem encodeUvarint_eq (x : Nat) (h : x < 2 ^ 64) : encodeUvarint x = uvarintEnc x := by
  unfold encodeUvarint
  rw [Nat.mod_eq_of_lt h, encodeUvarintLoop_eq 11 x [] (Nat.lt_of_lt_of_le h (by decide)) (by decide)]
  simp

/-- `x` sits in `buf` at position `loc` -/
def At (buf : List Nat) (loc : Nat) (x : List Nat) : Prop := ∃ pre post, buf = pre ++ x ++ post ∧ pre.length = loc

section
variable {buf : List Nat} {loc b : Nat} {x y : List Nat}

theorem at_mid (pre x post : List Nat) : At (pre ++ x ++ post) pre.length x := ⟨pre, post, rfl, rfl⟩

theorem At.left (h : At buf loc (x ++ y)) : At buf loc x := by
  obtain ⟨pre, post, rfl, rfl⟩ := h
  exact ⟨pre, y ++ post, by simp, rfl⟩

theorem At.right (h : At buf loc (x ++ y)) : At buf (loc + x.length) y := by
  obtain ⟨pre, post, rfl, rfl⟩ := h
  exact ⟨pre ++ x, post, by simp, by simp⟩

theorem At.length_le (h : At buf loc x) : loc + x.length ≤ buf.length := by
  obtain ⟨pre, post, rfl, rfl⟩ := h
  simp only [List.length_append]; omega

theorem At.rd_eq (h : At buf loc (b :: x)) : rd buf loc = .ok b := by
  obtain ⟨pre, post, rfl, rfl⟩ := h
  simp [rd]

theorem At.drop_take (h : At buf loc x) : (buf.drop loc).take x.length = x := by
  obtain ⟨pre, post, rfl, rfl⟩ := h
  rw [List.append_assoc, List.drop_left' rfl, List.take_left' rfl]

theorem At.rd_window (h : At buf loc x) (hx : ∀ b ∈ x, b < 256) (i : Nat) (hi : i < x.length) :
    rd buf (loc + i) = .ok (window (leNat x) (8 * i) 8) := by
  obtain ⟨pre, post, rfl, rfl⟩ := h
  rw [window_leNat x hx i hi, rd, List.append_assoc, List.getElem?_append_right (Nat.le_add_right _ _), Nat.add_sub_cancel_left,
    List.getElem?_append_left hi, List.getElem?_eq_getElem hi]

theorem At.tail (h : At buf loc (b :: x)) : At buf (loc + 1) x :=
  At.right (x := [b]) h

end

theorem uvarint_load (X s b : Nat) (hX : X < 2 ^ 64) (hb : b % 128 = window X s 7) :
    (window X 0 s ||| (b &&& 0x7F) <<< s) % 2 ^ 64 = window X 0 (s + 7) := by
  have h := window_append X 0 s 7
  rw [Nat.zero_add] at h
  rw [and7F, hb, h]
  exact Nat.mod_eq_of_lt (Nat.lt_of_le_of_lt (Nat.mod_le _ _) (by rw [Nat.pow_zero, Nat.div_one]; exact hX))

/-- the loop of `read_unsigned_var_int` part-way through the varint of `X`: `s` bits read, `x` is what remains -/
theorem readUvarintLoop_at (X : Nat) (hX : X < 2 ^ 64) {buf : List Nat} : ∀ (x loc fuel s : Nat), At buf loc (uvarintEnc x) →
    x = X / 2 ^ s → (s = 0 ∨ 1 ≤ x) → uvarintLen x ≤ fuel →
    readUvarintLoop buf fuel loc s (window X 0 s) = .ok (X, loc + uvarintLen x) := by
  intro x
  induction x using Nat.strongRecOn with
  | _ x ih =>
    intro loc fuel s hat hx hs hfuel
    have hlen := uvarintLen_eq x
    obtain ⟨fuel, rfl⟩ : ∃ f, fuel = f + 1 := ⟨fuel - 1, by split at hlen <;> omega⟩
    -- the shift stays below 64: a further byte is only read while bits of `X` remain
    have hs64 : ¬ s ≥ 64 := fun h => by
      have : x = 0 := hx.trans (Nat.div_eq_of_lt (Nat.lt_of_lt_of_le hX (Nat.pow_le_pow_right (by decide) h)))
      omega
    have hw : x % 128 = window X s 7 := by rw [hx]; rfl
    rw [uvarintEnc] at hat
    unfold readUvarintLoop
    by_cases h128 : x < 128
    · rw [if_pos h128] at hat
      have hb : x &&& 0x80 = 0 := (and80 x (by omega)).mpr h128
      simp only [hat.rd_eq, bind, Except.bind, hs64, if_false, hb, if_true, uvarint_load X s x hX hw]
      -- the last byte: no bits of `X` beyond `s + 7`
      have : X < 2 ^ (s + 7) := by
        rw [Nat.pow_add, Nat.mul_comm]; exact (Nat.div_lt_iff_lt_mul (Nat.two_pow_pos s)).mp (hx ▸ h128)
      rw [hlen, if_pos h128, window_of_lt this]
    · rw [if_neg h128] at hat
      have hb : ¬ ((x % 128 + 128) &&& 0x80 = 0) := by rw [and80 _ (by omega)]; omega
      have hw' : (x % 128 + 128) % 128 = window X s 7 := by rw [← hw]; omega
      simp only [hat.rd_eq, bind, Except.bind, hs64, if_false, hb, uvarint_load X s _ hX hw']
      rw [ih (x / 128) (by omega) (loc + 1) fuel (s + 7) hat.tail (by rw [hx, Nat.div_div_eq_div_mul, Nat.pow_add])
        (.inr (by omega)) (by rw [hlen, if_neg h128] at hfuel; omega), hlen, if_neg h128, Nat.add_assoc]

theorem readUvarint_at {buf : List Nat} {loc x : Nat} (h : At buf loc (uvarintEnc x)) (hx : x < 2 ^ 64) :
    readUvarint buf loc = .ok (x, loc + (uvarintEnc x).length) := by
  have := readUvarintLoop_at x hx x loc (buf.length + 1 - loc) 0 h (by simp) (.inl rfl)
    (by have := h.length_le; unfold uvarintLen; omega)
  rwa [window_zero] at this

theorem readUvarint_enc_head {x : Nat} (hx : x < 2 ^ 64) (rest : List Nat) :
    readUvarint (uvarintEnc x ++ rest) 0 = .ok (x, uvarintLen x) ∧ (uvarintEnc x ++ rest).drop (uvarintLen x) = rest := by
  have := readUvarint_at (at_mid [] _ rest) hx
  simp only [List.nil_append, List.length_nil, Nat.zero_add] at this
  exact ⟨this, List.drop_left' rfl⟩

theorem and0F (x : Nat) : x &&& 0x0F = x % 16 := Nat.and_two_pow_sub_one_eq_mod x 4

theorem andF0_div (x : Nat) : (x &&& 0xF0) / 16 = x / 16 % 16 := by
  rw [show (16 : Nat) = 2 ^ 4 from rfl, ← Nat.shiftRight_eq_div_pow, Nat.shiftRight_and_distrib, Nat.shiftRight_eq_div_pow]
  exact Nat.and_two_pow_sub_one_eq_mod _ 4

/-! 64-bit two's-complement zigzag kernels refine `Spec.zigzag*` on the int64 / uint64 range: no wrap happens there. -/

theorem zigzagLong_eq (u : Nat) (h : u < 2 ^ 64) : zigzagLong u = zigzagDec u := by
  unfold zigzagLong zigzagDec
  simp only [Nat.mod_eq_of_lt h]
  split
  · exact wrapS_small 64 _ (by decide) (by omega)
  · exact wrapS_of_range 64 (by decide) _ (by omega) (by omega)

theorem longZigzag_eq (n : Int) (h : -(2 ^ 63 : Int) ≤ n ∧ n < (2 ^ 63 : Int)) :
    longZigzag n = zigzagEnc n := by
  unfold longZigzag zigzagEnc
  simp only [wrapS_of_range 64 (by decide) n (by omega) (by omega)]
  split
  · exact wrapU_of_eq 64 _ _ (by omega) (by omega)
  · exact wrapU_of_eq 64 _ _ (by omega) (by omega)

theorem zigzagEnc_lt64 (n : Int) (h : -(2 ^ 63 : Int) ≤ n ∧ n < (2 ^ 63 : Int)) : zigzagEnc n < 2 ^ 64 := by
  unfold zigzagEnc
  split <;> omega

theorem zigzagLong_enc (n : Int) (h : -(2 ^ 63 : Int) ≤ n ∧ n < (2 ^ 63 : Int)) :
    zigzagLong (zigzagEnc n) = n := by
  rw [zigzagLong_eq _ (zigzagEnc_lt64 n h), zigzag_rt]

end PqV.Impl
