import PqV.Gen.Filter
import Mathlib.Tactic.Linarith
/-! Soundness of the interval tests *as regenerated from `fastparquet/api.py`*. -/
namespace PqV.Filter
open PqV.Py PqV.Gen.Filter

/-- Predicate semantics of one condition on a non-null scalar cell `x`. -/
def sat (op : String) (val : Int) (vals : List Int) (x : Int) : Bool :=
  if op == "==" || op == "=" then x == val
  else if op == "!=" then x != val
  else if op == "<" then decide (x < val)
  else if op == "<=" then decide (x ≤ val)
  else if op == ">" then decide (x > val)
  else if op == ">=" then decide (x ≥ val)
  else if op == "in" then vals.contains x
  else if op == "not in" then !vals.contains x
  else false

/-- `x` lies within the recorded bounds (each bound optional). -/
def inBounds (vmin vmax : Option Int) (x : Int) : Prop :=
  (∀ m, vmin = some m → m ≤ x) ∧ (∀ M, vmax = some M → x ≤ M)

theorem mem_insertSorted (a x : Int) (l : List Int) : x ∈ insertSorted a l ↔ x = a ∨ x ∈ l := by
  induction l with
  | nil => simp [insertSorted]
  | cons y ys ih =>
    rw [insertSorted]
    split
    · exact List.mem_cons
    · rw [List.mem_cons, ih, List.mem_cons, or_left_comm]

theorem mem_pySorted (x : Int) (l : List Int) : x ∈ pySorted l ↔ x ∈ l := by
  induction l with
  | nil => simp [pySorted]
  | cons y ys ih =>
    have : pySorted (y :: ys) = insertSorted y (pySorted ys) := rfl
    rw [this, mem_insertSorted, ih]; simp

theorem sorted_insertSorted (a : Int) (l : List Int) (h : l.Pairwise (· ≤ ·)) :
    (insertSorted a l).Pairwise (· ≤ ·) := by
  induction l with
  | nil => simp [insertSorted]
  | cons y ys ih =>
    simp only [insertSorted]
    rw [List.pairwise_cons] at h
    split
    · rename_i hle
      exact List.pairwise_cons.mpr
        ⟨List.forall_mem_cons.mpr ⟨hle, fun z hz => Int.le_trans hle (h.1 z hz)⟩, List.pairwise_cons.mpr h⟩
    · rename_i hnle
      refine List.pairwise_cons.mpr ⟨?_, ih h.2⟩
      intro z hz
      rcases (mem_insertSorted a z ys).mp hz with rfl | hz
      · omega
      · exact h.1 z hz

theorem sorted_pySorted (l : List Int) : (pySorted l).Pairwise (· ≤ ·) := by
  induction l with
  | nil => simp [pySorted]
  | cons y ys ih => exact sorted_insertSorted y _ ih

theorem pairwise_head_le {a : Int} {t : List Int} (hs : (a :: t).Pairwise (· ≤ ·)) : ∀ y ∈ a :: t, a ≤ y := by
  intro y hy
  rcases List.mem_cons.mp hy with rfl | hy
  · exact Int.le_refl _
  · exact List.rel_of_pairwise_cons hs hy

theorem pairwise_le_getLast (l : List Int) (hs : l.Pairwise (· ≤ ·)) (hne : l ≠ []) :
    ∀ y ∈ l, y ≤ l.getLast hne := by
  induction l with
  | nil => exact absurd rfl hne
  | cons a t ih =>
    intro y hy
    rw [List.pairwise_cons] at hs
    by_cases ht : t = []
    · subst ht; simp at hy; simp [hy]
    · rw [List.getLast_cons ht]
      rcases List.mem_cons.mp hy with rfl | hy
      · exact hs.1 _ (List.getLast_mem ht)
      · exact ih hs.2 ht y hy

theorem filter_len_eq_imp {α} {p q : α → Bool} {l : List α} (hpq : ∀ a, p a = true → q a = true)
    (hlen : (l.filter p).length = (l.filter q).length) : ∀ a ∈ l, q a = true → p a = true := by
  intro a ha hq
  have hsub : l.filter p = (l.filter q).filter p := by
    rw [List.filter_filter]; congr 1; funext a; cases h : p a <;> simp [hpq a, h]
  have heq : l.filter p = l.filter q := by
    rw [hsub] at hlen ⊢
    exact List.filter_sublist.eq_of_length hlen
  exact (List.mem_filter.mp (heq ▸ List.mem_filter.mpr ⟨ha, hq⟩)).2

/-! `filter_val` dispatches `in` / `not in` to their own functions; for every other operator string it
runs the same chain of guarded comparisons, none of which raises (each bound is compared only under
its `is not None` guard), so the result is `.ok` of a Boolean expression: `excludes`. -/

def excludes (op : String) (val : Int) (vmin vmax : Option Int) : Bool :=
  vmax.any (fun M => ["==", ">=", "="].contains op && decide (val > M) || op == ">" && decide (val ≥ M)) ||
  vmin.any (fun m => ["==", "<=", "="].contains op && decide (val < m) || op == "<" && decide (val ≤ m)) ||
  op == "!=" && vmax.any fun M => vmin.any fun m => decide (M = m) && decide (val = M)

theorem filter_val_in (val : Int) (vals : List Int) (vmin vmax : Option Int) :
    filter_val "in" val vals vmin vmax = filter_in vals vmin vmax := by
  simp [filter_val, handle_np_array]

theorem filter_val_not_in (val : Int) (vals : List Int) (vmin vmax : Option Int) :
    filter_val "not in" val vals vmin vmax = filter_not_in vals vmin vmax := by
  simp [filter_val, handle_np_array]

theorem filter_val_cmp {op : String} {val : Int} {vals : List Int} {vmin vmax : Option Int}
    (hin : op ≠ "in") (hnin : op ≠ "not in") :
    filter_val op val vals vmin vmax = .ok (excludes op val vmin vmax) := by
  cases vmin <;> cases vmax <;>
    simp [filter_val, handle_np_array, excludes, beq_eq_false_iff_ne.mpr hin, beq_eq_false_iff_ne.mpr hnin,
      Bool.or_assoc]

theorem filter_not_in_eq (vals : List Int) (vmin vmax : Option Int) :
    filter_not_in vals vmin vmax =
      .ok (decide (vals ≠ []) && (vmax.any vals.contains || vmin.any vals.contains)) := by
  cases vmin <;> cases vmax <;> simp [filter_not_in]

/-- An exclusion names its own operator, and then a bound puts every cell on the wrong side of `val`:
    `val > M ≥ x` refutes `x = val` and `x ≥ val`, `val ≥ M ≥ x` refutes `x > val`, symmetrically for
    the lower bound; `m = M = val` forces `x = val`, refuting `x ≠ val`. -/
theorem excludes_sound {op : String} {val : Int} {vals : List Int} {vmin vmax : Option Int} {x : Int}
    (h : excludes op val vmin vmax = true) (hb : inBounds vmin vmax x) : sat op val vals x = false := by
  simp only [excludes, Bool.or_eq_true, Bool.and_eq_true, Option.any_eq_true, decide_eq_true_eq,
    List.contains_eq_mem, List.mem_cons, List.not_mem_nil, or_false, beq_iff_eq] at h
  obtain ⟨hmin, hmax⟩ := hb
  rcases h with (⟨M, hM, h⟩ | ⟨m, hm, h⟩) | ⟨rfl, M, hM, m, hm, rfl, rfl⟩
  · have := hmax M hM
    rcases h with ⟨rfl | rfl | rfl, h⟩ | ⟨rfl, h⟩ <;> simp [sat] <;> omega
  · have := hmin m hm
    rcases h with ⟨rfl | rfl | rfl, h⟩ | ⟨rfl, h⟩ <;> simp [sat] <;> omega
  · have := hmax _ hM
    have := hmin _ hm
    simp [sat]; omega

/-- `filter_in` excludes a row group only if no listed value can occur within the bounds. -/
theorem filter_in_sound (vals : List Int) (vmin vmax : Option Int) (x : Int)
    (h : filter_in vals vmin vmax = .ok true) (hb : inBounds vmin vmax x) : vals.contains x = false := by
  obtain ⟨hmin, hmax⟩ := hb
  by_contra hx
  have hx : x ∈ vals := by simpa using hx
  have hne : vals ≠ [] := List.ne_nil_of_mem hx
  have hxs : x ∈ pySorted vals := (mem_pySorted x vals).mpr hx
  have hnes : pySorted vals ≠ [] := List.ne_nil_of_mem hxs
  cases vmin with
  | none =>
    cases vmax with
    | none => simp [filter_in, hne] at h
    | some M =>
      -- sorted_values[0] > vmax
      obtain ⟨a, t, hs⟩ := List.exists_cons_of_ne_nil hnes
      simp [filter_in, hne, hs] at h
      have := pairwise_head_le (hs ▸ sorted_pySorted vals) x (hs ▸ hxs)
      have := hmax M rfl
      omega
  | some m =>
    have := hmin m rfl
    cases vmax with
    | none =>
      -- sorted_values[-1] < vmin
      simp [filter_in, hne, pyIndex_neg_one _ hnes] at h
      have := pairwise_le_getLast _ (sorted_pySorted vals) hnes x hxs
      omega
    | some M =>
      have := hmax M rfl
      simp [filter_in, hne] at h
      rcases h with ⟨rfl, hM⟩ | h
      · exact hM ((by omega : x = M) ▸ hx)
      · -- as many values `< vmin` as `≤ vmax`, yet `x` is among the latter only
        have := filter_len_eq_imp (by intro a ha; simp at *; omega) h x hxs (by simpa)
        simp at this; omega

/-- Soundness for every operator string but `not in` (an unknown operator is never satisfied). -/
theorem filter_val_sound_of_ne (op : String) (val : Int) (vals : List Int) (vmin vmax : Option Int) (x : Int)
    (hop : op ≠ "not in") (h : filter_val op val vals vmin vmax = .ok true) (hb : inBounds vmin vmax x) :
    sat op val vals x = false := by
  by_cases hin : op = "in"
  · subst hin
    simpa [sat] using filter_in_sound vals vmin vmax x (filter_val_in .. ▸ h) hb
  · rw [filter_val_cmp hin hop] at h
    exact excludes_sound (Except.ok.inj h) hb

/-- The interval test of every comparison operator and of `in` is sound for pruning. -/
theorem filter_val_sound (op : String) (val : Int) (vals : List Int) (vmin vmax : Option Int) (x : Int)
    (hop : op ∈ ["==", "=", "!=", "<", "<=", ">", ">=", "in"])
    (h : filter_val op val vals vmin vmax = .ok true) (hb : inBounds vmin vmax x) :
    sat op val vals x = false :=
  filter_val_sound_of_ne op val vals vmin vmax x (by rintro rfl; simp at hop) h hb

/-- `filter_in` indexes `sorted(values)` only after `len(values) == 0` has returned, so it never raises. -/
theorem filter_in_total (vals : List Int) (vmin vmax : Option Int) : ∃ b, filter_in vals vmin vmax = .ok b := by
  by_cases hne : vals = []
  · exact ⟨true, by simp [filter_in, hne]⟩
  · obtain ⟨a, ha⟩ := List.exists_mem_of_ne_nil _ hne
    obtain ⟨a, t, hs⟩ := List.exists_cons_of_ne_nil (List.ne_nil_of_mem ((mem_pySorted a vals).mpr ha))
    cases vmin <;> cases vmax <;> simp [filter_in, hne, hs, pyIndex_neg_one (a :: t) (List.cons_ne_nil a t)]

theorem filter_val_total (op : String) (val : Int) (vals : List Int) (vmin vmax : Option Int) :
    ∃ b, filter_val op val vals vmin vmax = .ok b := by
  by_cases hin : op = "in"
  · rw [hin, filter_val_in]; exact filter_in_total vals vmin vmax
  by_cases hnin : op = "not in"
  · exact ⟨_, by rw [hnin, filter_val_not_in, filter_not_in_eq]⟩
  · exact ⟨_, filter_val_cmp hin hnin⟩

end PqV.Filter
