import PqV.Spec.Bits
import Mathlib.Tactic.Ring
import Mathlib.Tactic.Linarith
namespace PqV.Spec

theorem pow256 (k : Nat) : 2 ^ (k * 8) = 256 ^ k := by
  have e : (256 : Nat) = 2 ^ 8 := by norm_num
  rw [e, ← Nat.pow_mul, Nat.mul_comm]

theorem pow_le_256 (w : Nat) : 2 ^ w ≤ 256 ^ ((w + 7) / 8) := by
  rw [← pow256]
  exact Nat.pow_le_pow_right (by decide) (by omega)

theorem leNat_leBytes (k n : Nat) : leNat (leBytes k n) = n % 256 ^ k := by
  induction k generalizing n with
  | zero => simp [leBytes, leNat, Nat.mod_one]
  | succ k ih =>
    simp only [leBytes, leNat, ih]
    rw [Nat.pow_succ, Nat.mul_comm (256 ^ k) 256, Nat.mod_mul]

theorem leNat_leBytes_lt {k n : Nat} (h : n < 256 ^ k) : leNat (leBytes k n) = n := by
  rw [leNat_leBytes, Nat.mod_eq_of_lt h]

theorem leNat_leBytes_lt_two_pow {k n : Nat} (h : n < 2 ^ (k * 8)) : leNat (leBytes k n) = n :=
  leNat_leBytes_lt (pow256 k ▸ h)

theorem leBytes_length (k n : Nat) : (leBytes k n).length = k := by
  induction k generalizing n with
  | zero => simp [leBytes]
  | succ k ih => simp [leBytes, ih]

theorem take_leBytes_append (k n : Nat) (r : List Nat) : (leBytes k n ++ r).take k = leBytes k n :=
  List.take_left' (leBytes_length k n)

theorem drop_leBytes_append (k n : Nat) (r : List Nat) : (leBytes k n ++ r).drop k = r :=
  List.drop_left' (leBytes_length k n)

theorem leBytes_lt (k n : Nat) : ∀ b ∈ leBytes k n, b < 256 := by
  induction k generalizing n with
  | zero => simp [leBytes]
  | succ k ih =>
    intro b hb
    simp only [leBytes, List.mem_cons] at hb
    rcases hb with hb | hb
    · omega
    · exact ih _ b hb

theorem leNat_lt (bs : List Nat) (h : ∀ b ∈ bs, b < 256) : leNat bs < 256 ^ bs.length := by
  induction bs with
  | nil => simp [leNat]
  | cons b bs ih =>
    simp only [leNat, List.length_cons, Nat.pow_succ]
    have hb := h b (by simp)
    have := ih (fun x hx => h x (by simp [hx]))
    nlinarith

theorem leBytes_leNat (bs : List Nat) (h : ∀ b ∈ bs, b < 256) : leBytes bs.length (leNat bs) = bs := by
  induction bs with
  | nil => simp [leBytes]
  | cons b bs ih =>
    have hb := h b (by simp)
    simp only [List.length_cons, leBytes, leNat]
    have h1 : (b + 256 * leNat bs) % 256 = b := by omega
    have h2 : (b + 256 * leNat bs) / 256 = leNat bs := by omega
    rw [h1, h2, ih (fun x hx => h x (by simp [hx]))]

theorem leBytes_getElem (k n g : Nat) (hg : g < k) : (leBytes k n)[g]'(by rw [leBytes_length]; exact hg) = n / 256 ^ g % 256 := by
  induction k generalizing n g with
  | zero => omega
  | succ k ih =>
    cases g with
    | zero => simp [leBytes]
    | succ g =>
      simp only [leBytes, List.getElem_cons_succ]
      rw [ih (n / 256) g (by omega), Nat.div_div_eq_div_mul, Nat.pow_succ, Nat.mul_comm]

theorem packNat_lt (w : Nat) (vs : List Nat) : packNat w vs < 2 ^ (vs.length * w) := by
  induction vs with
  | nil => simp [packNat]
  | cons v vs ih =>
    simp only [packNat, List.length_cons]
    have hv : v % 2 ^ w < 2 ^ w := Nat.mod_lt _ (Nat.two_pow_pos w)
    have e : 2 ^ ((vs.length + 1) * w) = 2 ^ w * 2 ^ (vs.length * w) := by
      rw [← Nat.pow_add]; congr 1; ring
    rw [e]
    nlinarith [Nat.two_pow_pos w]

theorem bitField_packNat (w : Nat) (vs : List Nat) (i : Nat) (hi : i < vs.length) :
    bitField w i (packNat w vs) = vs[i] % 2 ^ w := by
  induction vs generalizing i with
  | nil => simp at hi
  | cons v vs ih =>
    unfold bitField at *
    cases i with
    | zero =>
      simp only [packNat, Nat.zero_mul, Nat.pow_zero, Nat.div_one, List.getElem_cons_zero]
      rw [Nat.add_mul_mod_self_left, Nat.mod_mod]
    | succ i =>
      simp only [packNat, List.getElem_cons_succ]
      have e : 2 ^ ((i + 1) * w) = 2 ^ w * 2 ^ (i * w) := by
        rw [← Nat.pow_add]; congr 1; ring
      rw [e, ← Nat.div_div_eq_div_mul]
      have hv : v % 2 ^ w < 2 ^ w := Nat.mod_lt _ (Nat.two_pow_pos w)
      have : (v % 2 ^ w + 2 ^ w * packNat w vs) / 2 ^ w = packNat w vs := by
        rw [Nat.add_mul_div_left _ _ (Nat.two_pow_pos w), Nat.div_eq_of_lt hv, Nat.zero_add]
      rw [this]
      exact ih i (by simpa using hi)

theorem unpackNat_packNat (w : Nat) (vs : List Nat) (h : ∀ v ∈ vs, v < 2 ^ w) :
    unpackNat w vs.length (packNat w vs) = vs := by
  apply List.ext_getElem
  · simp [unpackNat]
  · intro i h1 h2
    simp only [unpackNat, List.getElem_map, List.getElem_range]
    have hi : i < vs.length := by simpa [unpackNat] using h1
    rw [bitField_packNat w vs i hi]
    exact Nat.mod_eq_of_lt (h _ (List.getElem_mem hi))

theorem unpackLE_packLE (w : Nat) (vs : List Nat) (h : ∀ v ∈ vs, v < 2 ^ w) :
    unpackLE w vs.length (packLE w vs) = vs := by
  unfold unpackLE packLE
  rw [leNat_leBytes, Nat.mod_eq_of_lt (Nat.lt_of_lt_of_le (packNat_lt w vs) (pow_le_256 _))]
  exact unpackNat_packNat w vs h

theorem packLE_length (w : Nat) (vs : List Nat) : (packLE w vs).length = (vs.length * w + 7) / 8 := by
  simp [packLE, leBytes_length]

theorem packLE_length_groups (w : Nat) (vs : List Nat) (h8 : vs.length % 8 = 0) :
    (packLE w vs).length = vs.length / 8 * w := by
  rw [packLE_length]
  have h : vs.length = 8 * (vs.length / 8) := by omega
  generalize vs.length / 8 = g at *
  rw [h, Nat.mul_assoc]; omega

theorem leNat_append (a b : List Nat) : leNat (a ++ b) = leNat a + 256 ^ a.length * leNat b := by
  induction a with
  | nil => simp [leNat]
  | cons x xs ih => simp only [List.cons_append, leNat, ih, List.length_cons, Nat.pow_succ]; ring

/-- Every bit-level kernel keeps some bits of the stream in an accumulator, ors more on top, shifts used ones out and masks
a value out of the middle.  `window S a n` names what the accumulator holds (`bitField w i S` is `window S (i * w) w`). -/
def window (S a n : Nat) : Nat := S / 2 ^ a % 2 ^ n

theorem window_lt (S a n : Nat) : window S a n < 2 ^ n := Nat.mod_lt _ (Nat.two_pow_pos n)

theorem window_zero (S a : Nat) : window S a 0 = 0 := Nat.mod_one _

theorem window_of_lt {S n : Nat} (h : S < 2 ^ n) : window S 0 n = S := by
  rw [window, Nat.pow_zero, Nat.div_one, Nat.mod_eq_of_lt h]

theorem or_shiftLeft (d b l : Nat) (h : d < 2 ^ l) : d ||| b <<< l = d + 2 ^ l * b := by
  rw [Nat.or_comm, ← Nat.shiftLeft_add_eq_or_of_lt h, Nat.shiftLeft_eq, Nat.add_comm, Nat.mul_comm]

theorem shiftRight_and_mask (d r w : Nat) : (d >>> r) &&& (2 ^ w - 1) = window d r w := by
  rw [Nat.and_two_pow_sub_one_eq_mod, Nat.shiftRight_eq_div_pow]; rfl

theorem window_append (S a l m : Nat) : window S a l ||| window S (a + l) m <<< l = window S a (l + m) := by
  rw [or_shiftLeft _ _ _ (window_lt S a l)]
  unfold window
  rw [Nat.pow_add 2 a l, ← Nat.div_div_eq_div_mul, Nat.pow_add 2 l m, Nat.mod_mul]

theorem window_div (S a l m : Nat) (h : m ≤ l) : window S a l / 2 ^ m = window S (a + m) (l - m) := by
  unfold window
  have e : (2 : Nat) ^ l = 2 ^ m * 2 ^ (l - m) := by rw [← Nat.pow_add, Nat.add_sub_cancel' h]
  rw [e, Nat.mod_mul_right_div_self, Nat.div_div_eq_div_mul, ← Nat.pow_add]

theorem window_window (S a l r w : Nat) (h : r + w ≤ l) : window (window S a l) r w = window S (a + r) w := by
  have hd : 2 ^ w ∣ 2 ^ (l - r) := Nat.pow_dvd_pow 2 (Nat.le_sub_of_add_le' h)
  show window S a l / 2 ^ r % 2 ^ w = _
  rw [window_div S a l r (Nat.le_of_add_right_le h)]
  exact Nat.mod_mod_of_dvd _ hd

theorem window_add_mul (x y a n N : Nat) (h : a + n ≤ N) : window (x + 2 ^ N * y) a n = window x a n := by
  have e : (2 : Nat) ^ N = 2 ^ a * (2 ^ n * 2 ^ (N - a - n)) := by
    rw [← Nat.pow_add, ← Nat.pow_add]; congr 1; omega
  unfold window
  rw [e, Nat.mul_assoc, Nat.add_mul_div_left _ _ (Nat.two_pow_pos a), Nat.mul_assoc, Nat.add_mul_mod_self_left]

theorem window_leNat (bs : List Nat) (h : ∀ b ∈ bs, b < 256) (i : Nat) (hi : i < bs.length) :
    window (leNat bs) (8 * i) 8 = bs[i] := by
  have := leBytes_getElem bs.length (leNat bs) i hi
  simp only [leBytes_leNat bs h] at this
  rw [this, window, Nat.mul_comm, pow256]
  rfl

theorem unpackLE_append (w n : Nat) (a b : List Nat) (h : n * w ≤ 8 * a.length) :
    unpackLE w n (a ++ b) = unpackLE w n a := by
  unfold unpackLE unpackNat
  apply List.map_congr_left
  intro i hi
  have hi' : (i + 1) * w ≤ n * w := Nat.mul_le_mul_right w (List.mem_range.mp hi)
  rw [leNat_append, ← pow256]
  exact window_add_mul _ _ (i * w) w _ (by rw [Nat.succ_mul] at hi'; omega)

theorem unpackLE_packLE_append (w : Nat) (vs tail : List Nat) (h : ∀ v ∈ vs, v < 2 ^ w) :
    unpackLE w vs.length (packLE w vs ++ tail) = vs := by
  rw [unpackLE_append _ _ _ _ (by rw [packLE_length]; omega), unpackLE_packLE w vs h]

theorem leBytes_mod (k a : Nat) : leBytes k (a % 256 ^ k) = leBytes k a := by
  have := leBytes_leNat (leBytes k a) (leBytes_lt k a)
  rwa [leBytes_length, leNat_leBytes] at this

theorem leBytes_add : ∀ (k m n : Nat), leBytes (k + m) n = leBytes k n ++ leBytes m (n / 256 ^ k) := by
  intro k
  induction k with
  | zero => intro m n; simp [leBytes]
  | succ k ih =>
    intro m n
    have : k + 1 + m = (k + m) + 1 := by omega
    rw [this]
    simp only [leBytes, ih, List.cons_append]
    congr 2
    rw [Nat.div_div_eq_div_mul, Nat.pow_succ, Nat.mul_comm]

theorem leBytes_add_mul (k m x y : Nat) :
    leBytes (k + m) (x + 256 ^ k * y) = leBytes k x ++ leBytes m (x / 256 ^ k + y) := by
  rw [leBytes_add, ← leBytes_mod k (x + _), Nat.add_mul_mod_self_left, leBytes_mod, Nat.add_mul_div_left _ _ (Nat.pow_pos (by decide))]

/-- byte-wide bit packing is the little-endian byte layout (`data.values.tobytes()`) -/
theorem packLE_bytes (k : Nat) (vs : List Nat) (h : ∀ v ∈ vs, v < 256 ^ k) :
    packLE (k * 8) vs = vs.flatMap (leBytes k) := by
  unfold packLE
  have hl : (vs.length * (k * 8) + 7) / 8 = vs.length * k := by
    have : vs.length * (k * 8) = (vs.length * k) * 8 := by ring
    omega
  rw [hl]
  clear hl
  induction vs with
  | nil => simp [leBytes]
  | cons v vs ih =>
    have hv : v < 256 ^ k := h v List.mem_cons_self
    have ih' := ih (fun x hx => h x (List.mem_cons_of_mem _ hx))
    have e1 : (vs.length + 1) * k = k + vs.length * k := by ring
    simp only [List.length_cons, packNat, List.flatMap_cons, e1, pow256, Nat.mod_eq_of_lt hv]
    rw [leBytes_add_mul, Nat.div_eq_of_lt hv, Nat.zero_add, ih']

theorem flatMap_replicate_zero (k m : Nat) : (List.replicate m 0).flatMap (leBytes k) = List.replicate (m * k) 0 := by
  have hz : leBytes k 0 = List.replicate k 0 := by
    induction k with
    | zero => rfl
    | succ k ih => simp [leBytes, ih, List.replicate_succ]
  induction m with
  | zero => simp
  | succ m ih =>
    rw [List.replicate_succ, List.flatMap_cons, ih, hz, List.replicate_append_replicate]
    congr 1; ring

theorem length_le_flatMap {α β} {f : α → List β} (h : ∀ x, 0 < (f x).length) (l : List α) :
    l.length ≤ (l.flatMap f).length := by
  induction l with
  | nil => exact Nat.le_refl 0
  | cons x t ih => rw [List.flatMap_cons, List.length_append, List.length_cons]; have := h x; omega

theorem lt_of_mem_append_zeros {xs : List Nat} {b : Nat} (h : ∀ v ∈ xs, v < b) (hb : 0 < b) (k : Nat) :
    ∀ v ∈ xs ++ List.replicate k 0, v < b := by
  intro v hv
  rcases List.mem_append.mp hv with h1 | h1
  · exact h v h1
  · rw [(List.mem_replicate.mp h1).2]; exact hb

theorem drop_take_flatMap_leBytes (k : Nat) (L : List Nat) (tail : List Nat) (hL : ∀ v ∈ L, v < 256 ^ k) :
    ∀ i (hi : i < L.length), leNat (((L.flatMap (leBytes k) ++ tail).drop (i * k)).take k) = L[i] := by
  induction L with
  | nil => intro i hi; simp at hi
  | cons v vs ih =>
    intro i hi
    have hv : v < 256 ^ k := hL v List.mem_cons_self
    cases i with
    | zero => simp [leNat_leBytes_lt hv, take_leBytes_append]
    | succ j =>
      have e : (j + 1) * k = k + j * k := by ring
      simp only [List.flatMap_cons, List.append_assoc, List.getElem_cons_succ]
      rw [e, ← List.drop_drop, drop_leBytes_append]
      exact ih (fun x hx => hL x (List.mem_cons_of_mem _ hx)) j (by simpa using hi)

theorem toSigned_small (bits u : Nat) (h : u < 2 ^ (bits - 1)) (hb : 1 ≤ bits) : toSigned bits u = (u : Int) := by
  unfold toSigned
  have hlt : 2 ^ (bits - 1) < 2 ^ bits := Nat.pow_lt_pow_right (by norm_num) (by omega)
  have : u % 2 ^ bits = u := Nat.mod_eq_of_lt (by omega)
  simp [this, h]

theorem unpackLE_take (w n m : Nat) (bs : List Nat) (h : n ≤ m) : unpackLE w n bs = (unpackLE w m bs).take n := by
  unfold unpackLE unpackNat
  rw [← List.map_take, List.take_range, Nat.min_eq_left h]

theorem unpackLE_length (w n : Nat) (bs : List Nat) : (unpackLE w n bs).length = n := by
  simp [unpackLE, unpackNat]

theorem unpackLE_zero (n : Nat) (bs : List Nat) : unpackLE 0 n bs = List.replicate n 0 := by
  simp [unpackLE, unpackNat, bitField, Nat.mod_one, List.map_const']

end PqV.Spec
