import PqV.Impl.Footer
import PqV.Lemmas.Bits
namespace PqV.Impl.Footer
open PqV.Spec

theorem overlay_take {f : List Nat} {loc : Nat} {bs : List Nat} (h : loc ≤ f.length) :
    (overlay f loc bs).take loc = f.take loc := by
  rw [overlay, List.append_assoc]
  exact List.take_left' (List.length_take_of_le h)

theorem overlay_length (f : List Nat) (loc : Nat) (bs : List Nat) (h : loc ≤ f.length) :
    (overlay f loc bs).length = max f.length (loc + bs.length) := by
  rw [overlay, List.length_append, List.length_append, List.length_take, List.length_drop]
  omega

theorem overlay_covers (f : List Nat) (loc : Nat) (bs : List Nat) (h : f.length ≤ loc + bs.length) :
    overlay f loc bs = f.take loc ++ bs := by
  unfold overlay
  rw [List.drop_eq_nil_of_le h]; simp

theorem magic_length : magic.length = 4 := rfl

theorem footerLoc_framed (pre nf : List Nat) (hnf : nf.length < 2 ^ 32) :
    footerLoc false (pre ++ nf ++ leBytes 4 nf.length ++ magic) = pre.length := by
  have e : (pre ++ nf ++ leBytes 4 nf.length ++ magic).length - 8 = (pre ++ nf).length := by
    simp only [List.length_append, leBytes_length, magic_length]; omega
  unfold footerLoc
  simp only [Bool.false_eq_true, if_false]
  rw [e, List.append_assoc (pre ++ nf), List.drop_left, List.take_left' (leBytes_length 4 _), leNat_leBytes_lt_two_pow (k := 4) hnf,
    List.length_append, Nat.add_sub_cancel]

theorem lookup_cons (p : List Nat × List Nat) (t : KV) (k : List Nat) :
    lookup (p :: t) k = (lookup t k).or (if p.1 == k then some p.2 else none) := by
  unfold lookup
  simp only [List.reverse_cons, List.find?_append, List.find?_cons, List.find?_nil]
  cases List.find? (fun x => x.1 == k) t.reverse with
  | some x => rfl
  | none => cases p.1 == k <;> rfl

theorem lookup_nil (k : List Nat) : lookup [] k = none := rfl

theorem lookup_none_of_not_mem (t : KV) (k : List Nat) (h : k ∉ t.map (·.1)) : lookup t k = none := by
  simp only [lookup, Option.map_eq_none_iff, List.find?_eq_none, List.mem_reverse, beq_iff_eq]
  exact fun p hp e => h (List.mem_map.mpr ⟨p, hp, e⟩)

theorem lookup_append_single (t : KV) (k' val k : List Nat) :
    lookup (t ++ [(k', val)]) k = if k = k' then some val else lookup t k := by
  unfold lookup
  simp only [List.reverse_append, List.reverse_cons, List.reverse_nil, List.nil_append,
    List.cons_append, List.find?_cons]
  by_cases hk : k = k'
  · simp [hk]
  · simp [hk, beq_eq_false_iff_ne.mpr (Ne.symm hk)]

theorem map_fst_set {kvm : KV} {k' : List Nat} (val : List Nat) {idx : Nat} (h : List.idxOf? k' (kvm.map (·.1)) = some idx) :
    (kvm.set idx (k', val)).map (·.1) = kvm.map (·.1) := by
  obtain ⟨hlt, hget, _⟩ := List.idxOf?_eq_some_iff.mp h
  rw [List.map_set, ← hget, List.set_getElem_self]

theorem lookup_at_idx {kvm : KV} {k' : List Nat} (k : List Nat) {idx : Nat} (hnd : (kvm.map (·.1)).Nodup)
    (h : List.idxOf? k' (kvm.map (·.1)) = some idx) (val : List Nat) :
    lookup (kvm.eraseIdx idx) k = (if k = k' then none else lookup kvm k) ∧
    lookup (kvm.set idx (k', val)) k = (if k = k' then some val else lookup kvm k) := by
  induction kvm generalizing idx with
  | nil => simp at h
  | cons p t ih =>
    simp only [List.map_cons, List.nodup_cons] at hnd
    rw [List.map_cons, List.idxOf?_cons] at h
    by_cases hp : p.1 = k'
    · -- found here; by distinctness the tail does not have the key
      obtain rfl : 0 = idx := by simpa [hp] using h
      have ht := lookup_none_of_not_mem t k' (hp ▸ hnd.1)
      by_cases hk : k = k'
      · subst hk; simp [lookup_cons, ht]
      · simp [lookup_cons, hk, hp, Ne.symm hk]
    · have hb : (p.1 == k') = false := by simpa using hp
      simp only [hb, Bool.false_eq_true, if_false, Option.map_eq_some_iff] at h
      obtain ⟨j, hj, rfl⟩ := h
      have := ih hnd.2 hj
      simp only [List.eraseIdx_cons_succ, List.set_cons_succ, lookup_cons, this.1, this.2]
      by_cases hk : k = k'
      · subst hk; simp [hb]
      · simp [hk]

theorem merge_one_lookup (kvm : KV) (u : List Nat × Option (List Nat)) (hnd : (kvm.map (·.1)).Nodup) (k : List Nat) :
    lookup (merge kvm [u]) k = specStep (lookup kvm) u k := by
  obtain ⟨k', v⟩ := u
  unfold merge
  simp only [List.foldl_cons, List.foldl_nil, mergeStep, specStep]
  cases hidx : List.idxOf? k' (kvm.map (·.1)) with
  | none =>
    have hnotin := List.idxOf?_eq_none_iff.mp hidx
    cases v with
    | none =>
      by_cases hk : k = k'
      · subst hk; simp [lookup_none_of_not_mem kvm k hnotin]
      · simp [hk]
    | some val => exact lookup_append_single kvm k' val k
  | some idx =>
    cases v with
    | none => exact (lookup_at_idx k hnd hidx []).1
    | some val => exact (lookup_at_idx k hnd hidx val).2

theorem idxOf?_append_left (k' : List Nat) (a b : List (List Nat)) (h : k' ∉ b) :
    List.idxOf? k' (a ++ b) = List.idxOf? k' a := by
  have := List.idxOf?_eq_none_iff.mpr h
  simp only [List.idxOf?] at this ⊢
  rw [List.findIdx?_append, this, Option.map_none, Option.or_none]

theorem map_eraseIdx' {α β} (f : α → β) : ∀ (l : List α) (i : Nat), (l.map f).eraseIdx i = (l.eraseIdx i).map f
  | [], _ => by simp
  | _ :: _, 0 => by simp
  | x :: xs, i + 1 => by simp [map_eraseIdx' f xs i]

/-- the spare key list only covers the entries present at the start (`base`); as long as the
    update does not name a key that was added in the meantime, the step acts as if it were complete -/
theorem mergeStep_prefix (base added : KV) (u : List Nat × Option (List Nat)) (hu : u.1 ∉ added.map (·.1)) :
    ∃ base' added', mergeStep (base ++ added, base.map (·.1)) u = (base' ++ added', base'.map (·.1)) ∧
      base' ++ added' = merge (base ++ added) [u] ∧
      ∀ x ∈ added'.map (·.1), x ∈ added.map (·.1) ∨ x = u.1 := by
  obtain ⟨k', v⟩ := u
  have hidx : List.idxOf? k' ((base ++ added).map (·.1)) = List.idxOf? k' (base.map (·.1)) := by
    rw [List.map_append]; exact idxOf?_append_left k' _ _ hu
  simp only [merge, List.foldl_cons, List.foldl_nil, mergeStep, hidx]
  cases hi : List.idxOf? k' (base.map (·.1)) with
  | none =>
    cases v with
    | none => exact ⟨base, added, rfl, rfl, fun _ => Or.inl⟩
    | some val => exact ⟨base, added ++ [(k', val)], by simp, by simp, fun x hx => by simpa using hx⟩
  | some idx =>
    have hlt : idx < base.length := by simpa using (List.idxOf?_eq_some_iff.mp hi).1
    cases v with
    | none =>
      refine ⟨base.eraseIdx idx, added, ?_, ?_, fun _ => Or.inl⟩
      · simp [List.eraseIdx_append_of_lt_length hlt, map_eraseIdx']
      · simp [List.eraseIdx_append_of_lt_length hlt]
    | some val =>
      refine ⟨base.set idx (k', val), added, ?_, ?_, fun _ => Or.inl⟩
      · simp [List.set_append_left _ _ hlt, map_fst_set val hi]
      · simp [List.set_append_left _ _ hlt]

theorem merge_one_nodup (kvm : KV) (u : List Nat × Option (List Nat)) (hnd : (kvm.map (·.1)).Nodup) :
    ((merge kvm [u]).map (·.1)).Nodup := by
  obtain ⟨k', v⟩ := u
  unfold merge
  simp only [List.foldl_cons, List.foldl_nil, mergeStep]
  cases hi : List.idxOf? k' (kvm.map (·.1)) with
  | none =>
    have hnotin := List.idxOf?_eq_none_iff.mp hi
    cases v with
    | none => exact hnd
    | some val =>
      simp only [List.map_append, List.map_cons, List.map_nil]
      exact List.nodup_append.mpr ⟨hnd, by simp, by intro a ha b hb; simp at hb; subst hb; intro e; exact hnotin (e ▸ ha)⟩
  | some idx =>
    cases v with
    | none =>
      simp only [← map_eraseIdx']
      exact hnd.sublist (List.eraseIdx_sublist _ _)
    | some val => simp only [map_fst_set val hi]; exact hnd

theorem merge_seq_lookup {upd : List (List Nat × Option (List Nat))} (hupd : (upd.map (·.1)).Nodup)
    (base added : KV) (hnd : ((base ++ added).map (·.1)).Nodup) (hadd : ∀ u ∈ upd, u.1 ∉ added.map (·.1)) (k : List Nat) :
    lookup ((upd.foldl mergeStep (base ++ added, base.map (·.1))).1) k = (upd.foldl specStep (lookup (base ++ added))) k := by
  induction upd generalizing base added with
  | nil => rfl
  | cons u us ih =>
    simp only [List.map_cons, List.nodup_cons] at hupd
    obtain ⟨base', added', hstep, hmerge, hkeys⟩ := mergeStep_prefix base added u (hadd u (List.mem_cons_self))
    have hnd' : ((base' ++ added').map (·.1)).Nodup := by rw [hmerge]; exact merge_one_nodup _ u hnd
    have hadd' : ∀ u' ∈ us, u'.1 ∉ added'.map (·.1) := fun u' hu' hin =>
      (hkeys _ hin).elim (hadd u' (List.mem_cons_of_mem _ hu')) fun e => hupd.1 (List.mem_map.mpr ⟨u', hu', e⟩)
    simp only [List.foldl_cons, hstep]
    rw [ih hupd.2 base' added' hnd' hadd']
    have hfun : lookup (base' ++ added') = specStep (lookup (base ++ added)) u := by
      funext x
      rw [hmerge]
      exact merge_one_lookup (base ++ added) u hnd x
    rw [hfun]

end PqV.Impl.Footer
