import PqV.Impl.DatasetOps
import PqV.Lemmas.Dataset
import Mathlib.Data.List.Nodup
/-!
The invariant `Inv` of the dataset state machine `Impl.DatasetOps.step` (the directory is the graph of the row-group list).
Adding and removing row groups preserve it by one-step lemmas and their folds (`Inv.put`, `Inv.putAll`, `Inv.remove`).  For the two
rename passes of `_sort_part_names` the row-group list stays fixed and only the naming changes, so the invariant is restated with
the naming scheme as a parameter (`Keyed`): each pass is `Keyed.renames`, and `Inv` is `Keyed` at the scheme `key`.  Every operation
is a composition of stages, each keeping `Ok` (= `Inv`, and `Bounded` where part names are sorted); under its side condition
it cannot fail: `step_ok`, `run_ok`.
-/
namespace PqV.Impl.DatasetOps
open PqV.Impl.Dataset

abbrev Files := List ((String × Nat) × List Nat)
abbrev K := String × Nat
abbrev G := K → Option (List Nat)

def fget (fs : Files) (k : String × Nat) : Option (List Nat) := (fs.find? (·.1 == k)).map (·.2)
def key (r : RgRef) : String × Nat := (r.dir, r.id)

theorem getFile_eq (ds : DS) (k : K) : ds.getFile k = fget ds.files k := rfl

theorem fget_put_eq (fs : Files) (k : K) (rows : List Nat) : fget (putFile fs k rows) k = some rows := by
  simp [fget, putFile]

theorem fget_filter {fs : Files} {p : K × List Nat → Bool} {q : K} (h : ∀ f : K × List Nat, f.1 = q → p f = true) :
    fget (fs.filter p) q = fget fs q :=
  congrArg (Option.map Prod.snd) (find?_key_filter fs p q h)

theorem fget_put_ne {fs : Files} {k q : K} {rows : List Nat} (h : q ≠ k) :
    fget (putFile fs k rows) q = fget fs q :=
  congrArg (Option.map Prod.snd) (find?_key_put fs k q rows h)

theorem fget_del_ne {fs : Files} {k q : K} (h : q ≠ k) : fget (delFile fs k) q = fget fs q :=
  fget_filter fun f e => by simpa [e] using h

theorem fget_del_eq (fs : Files) (k : K) : fget (delFile fs k) k = none := by
  simp [fget, delFile, List.find?_eq_none]

theorem mem_put {fs : Files} {k : K} {rows : List Nat} {f : K × List Nat} :
    f ∈ putFile fs k rows ↔ f = (k, rows) ∨ (f ∈ fs ∧ f.1 ≠ k) := by
  simp [putFile]

theorem mem_del {fs : Files} {k : K} {f : K × List Nat} :
    f ∈ delFile fs k ↔ f ∈ fs ∧ f.1 ≠ k := by
  simp [delFile]

/-- the invariant: every referenced file holds the rows the metadata says, every file on disk is
    referenced, and no two row groups share a file -/
structure Inv (ds : DS) : Prop where
  refs_ok : ∀ r ∈ ds.refs, fget ds.files (key r) = some r.rows
  files_ok : ∀ f ∈ ds.files, ∃ r ∈ ds.refs, key r = f.1
  nodup : (ds.refs.map key).Nodup

theorem agree_iff {ds : DS} : agree ds = true ↔
    (∀ r ∈ ds.refs, fget ds.files (key r) = some r.rows) ∧ ∀ f ∈ ds.files, ∃ r ∈ ds.refs, key r = f.1 := by
  simp only [agree, getFile_eq, key, Bool.and_eq_true, List.all_eq_true, List.any_eq_true, beq_iff_eq]

theorem agree_of_inv {ds : DS} (h : Inv ds) : agree ds = true := agree_iff.mpr ⟨h.refs_ok, h.files_ok⟩

theorem inv_of_agree {ds : DS} (h : agree ds = true) (hn : (ds.refs.map key).Nodup) : Inv ds :=
  ⟨(agree_iff.mp h).1, (agree_iff.mp h).2, hn⟩

theorem Inv.put {ds : DS} (h : Inv ds) (r : RgRef) (hr : key r ∉ ds.refs.map key) :
    Inv ⟨putFile ds.files (key r) r.rows, ds.refs ++ [r]⟩ := by
  refine ⟨fun r' hr' => ?_, fun f hf => ?_, ?_⟩
  · rcases List.mem_append.mp hr' with h' | h'
    · rw [fget_put_ne fun e : key r' = key r => hr (e ▸ List.mem_map_of_mem h')]
      exact h.refs_ok r' h'
    · rw [List.mem_singleton.mp h']
      exact fget_put_eq ..
  · rcases mem_put.mp hf with rfl | ⟨h1, _⟩
    · exact ⟨r, by simp, rfl⟩
    · obtain ⟨r', hr', e⟩ := h.files_ok f h1
      exact ⟨r', List.mem_append_left _ hr', e⟩
  · rw [List.map_append, List.map_singleton]
    exact List.nodup_append_comm.mp (List.nodup_cons.mpr ⟨hr, h.nodup⟩)

theorem Inv.putAll {ds : DS} (h : Inv ds) {new : List RgRef} (hn : ((ds.refs ++ new).map key).Nodup) :
    Inv ⟨new.foldl (fun fs r => putFile fs (r.dir, r.id) r.rows) ds.files, ds.refs ++ new⟩ := by
  induction new generalizing ds with
  | nil => simpa using h
  | cons r rest ih =>
    have hr : key r ∉ ds.refs.map key := fun hin =>
      (List.nodup_cons.mp (List.nodup_middle.mp (by simpa using hn))).1 (List.mem_append_left _ hin)
    simpa [List.append_assoc, key] using ih (h.put r hr) (by simpa [List.append_assoc] using hn)

/-- the pieces of one incoming row group go to distinct directories (they come from a group-by) -/
def PiecesOk (nd : NewData) : Prop := ∀ pieces ∈ nd, (pieces.map (·.1)).Nodup

theorem addNew_inv {ds : DS} {nd : NewData} (h : Inv ds) (hp : PiecesOk nd) : Inv (addNew ds nd) := by
  refine h.putAll ?_
  rw [List.map_append, List.nodup_append]
  refine ⟨h.nodup, newRefs_nodup (maxPart ds.refs) nd 0 hp, fun a ha b hb e => ?_⟩
  obtain ⟨r, hr, rfl⟩ := List.mem_map.mp ha
  obtain ⟨r', hr', rfl⟩ := List.mem_map.mp hb
  exact newRefs_fresh_path ds.refs nd r' hr' r hr e.symm

def delAll (fs : Files) (gone : List RgRef) : Files := gone.foldl (fun fs r => delFile fs (r.dir, r.id)) fs

theorem delAll_eq (gone : List RgRef) (fs : Files) : delAll fs gone = fs.filter (fun f => f.1 ∉ gone.map key) := by
  induction gone generalizing fs with
  | nil => simp [delAll]
  | cons g rest ih =>
    rw [delAll, List.foldl_cons, ← delAll, ih, delFile, List.filter_filter]
    apply List.filter_congr
    intro f _
    simp only [List.mem_map, key, not_exists, not_and, bne, beq_eq_decide, Bool.and_comm, List.map_cons, List.mem_cons,
      not_or, Bool.decide_and, decide_not]

def keepIdx (refs : List RgRef) (idxs : List Nat) : List RgRef :=
  (refs.zipIdx.filter (fun p => !idxs.contains p.2)).map (·.1)

theorem mem_keepIdx {refs : List RgRef} {idxs : List Nat} {r : RgRef} :
    r ∈ keepIdx refs idxs ↔ ∃ e ∈ refs.zipIdx, e.2 ∉ idxs ∧ e.1 = r := by
  simp only [keepIdx, List.mem_map, List.mem_filter, Bool.not_eq_true', List.contains_eq_mem, decide_eq_false_iff_not,
    and_assoc]

theorem keepIdx_sublist (refs : List RgRef) (idxs : List Nat) : (keepIdx refs idxs).Sublist refs := by
  have h1 : (refs.zipIdx.filter (fun p => !idxs.contains p.2)).Sublist refs.zipIdx := List.filter_sublist
  have h2 := h1.map (·.1)
  rwa [List.zipIdx_map_fst] at h2

/-- a row group with its position: the entries of `refs.zipIdx` -/
abbrev Entry := RgRef × Nat

theorem zipIdx_map_fst' {α β : Type} (f : α → β) (l : List α) : l.zipIdx.map (fun e => f e.1) = l.map f :=
  (List.map_map (f := Prod.fst) (g := f)).symm.trans (by rw [List.zipIdx_map_fst])

theorem exists_mem_zipIdx {α : Type} {l : List α} {r : α} (h : r ∈ l) : ∃ i, (r, i) ∈ l.zipIdx :=
  (List.getElem?_of_mem h).imp fun _ => List.mk_mem_zipIdx_iff_getElem?.mpr

theorem key_inj {refs : List RgRef} (hn : (refs.map key).Nodup) :
    ∀ a ∈ refs.zipIdx, ∀ b ∈ refs.zipIdx, key a.1 = key b.1 → a = b :=
  fun _ ha _ hb => List.inj_on_of_nodup_map (by rwa [zipIdx_map_fst']) ha hb

theorem Inv.remove {ds : DS} (h : Inv ds) (idxs : List Nat) :
    Inv ⟨delAll ds.files (idxs.filterMap fun i => ds.refs[i]?), keepIdx ds.refs idxs⟩ := by
  have hgone : ∀ a ∈ ds.refs.zipIdx, (key a.1 ∈ (idxs.filterMap (fun i => ds.refs[i]?)).map key ↔ a.2 ∈ idxs) := by
    intro a ha
    simp only [List.mem_map, List.mem_filterMap]
    exact ⟨fun ⟨g, ⟨j, hj, hgj⟩, e⟩ => key_inj h.nodup (g, j) (List.mk_mem_zipIdx_iff_getElem?.mpr hgj) a ha e ▸ hj,
      fun hin => ⟨a.1, ⟨a.2, hin, List.mem_zipIdx_iff_getElem?.mp ha⟩, rfl⟩⟩
  refine ⟨?_, ?_, ((keepIdx_sublist ds.refs idxs).map key).nodup h.nodup⟩
  · intro r hr
    obtain ⟨a, ha, hni, rfl⟩ := mem_keepIdx.mp hr
    rw [delAll_eq, fget_filter fun f e => by simpa [e, hgone a ha] using hni]
    exact h.refs_ok a.1 (List.fst_mem_of_mem_zipIdx ha)
  · intro f hf
    rw [delAll_eq, List.mem_filter, decide_eq_true_eq] at hf
    obtain ⟨r, hr, e⟩ := h.files_ok f hf.1
    obtain ⟨i, hi⟩ := exists_mem_zipIdx hr
    exact ⟨r, mem_keepIdx.mpr ⟨_, hi, fun hin => hf.2 (e ▸ (hgone _ hi).mpr hin), rfl⟩, e⟩

theorem inv_perm {ds : DS} {refs' : List RgRef} (h : Inv ds) (hp : refs'.Perm ds.refs) : Inv { ds with refs := refs' } := by
  refine ⟨fun r hr => h.refs_ok r (hp.mem_iff.mp hr), fun f hf => ?_, (hp.map key).nodup_iff.mpr h.nodup⟩
  obtain ⟨r, hr, e⟩ := h.files_ok f hf
  exact ⟨r, hp.mem_iff.mpr hr, e⟩

theorem insertBy_perm (k : RgRef → Nat) (x : RgRef) (l : List RgRef) : (insertBy k x l).Perm (x :: l) := by
  induction l with
  | nil => exact List.Perm.refl _
  | cons y ys ih =>
    simp only [insertBy]
    split
    · exact List.Perm.refl _
    · exact ((List.Perm.cons y ih).trans (List.Perm.swap x y ys))

theorem stableSortBy_perm (k : RgRef → Nat) (l : List RgRef) : (stableSortBy k l).Perm l := by
  induction l with
  | nil => exact List.Perm.refl _
  | cons x xs ih =>
    simp only [stableSortBy, List.foldr_cons] at ih ⊢
    exact (insertBy_perm k x _).trans (List.Perm.cons x ih)

/-- `rename` on the function view of the directory -/
def renameF (g : G) (p : K × K) : G := fun q => if q = p.2 then g p.1 else if q = p.1 then none else g q

theorem rename_ok (fs : Files) (src dst : K) (rows : List Nat) (h : fget fs src = some rows) :
    ∃ fs', rename fs src dst = .ok fs' ∧ fget fs' = renameF (fget fs) (src, dst) := by
  have h' : Option.map (fun x => x.2) (List.find? (fun x => x.1 == src) fs) = some rows := h
  refine ⟨putFile (delFile fs src) dst rows, ?_, ?_⟩
  · simp only [rename, h']
  · funext q
    rw [renameF]
    split
    · next hq => rw [hq, fget_put_eq, h]
    · next hq =>
      rw [fget_put_ne hq]
      split
      · next hs => rw [hs]; exact fget_del_eq fs src
      · next hs => exact fget_del_ne hs

structure Disjoint (L : List (K × K)) : Prop where
  src : (L.map (·.1)).Nodup
  dst : (L.map (·.2)).Nodup
  sd : ∀ p ∈ L, ∀ p' ∈ L, p.1 ≠ p'.2

theorem Disjoint.tail {p : K × K} {L : List (K × K)} (h : Disjoint (p :: L)) : Disjoint L :=
  ⟨(List.nodup_cons.mp h.src).2, (List.nodup_cons.mp h.dst).2,
   fun a ha b hb => h.sd a (List.mem_cons_of_mem _ ha) b (List.mem_cons_of_mem _ hb)⟩

theorem renames_untouched (L : List (K × K)) (g : G) (q : K) (h : ∀ p ∈ L, p.1 ≠ q ∧ p.2 ≠ q) :
    L.foldl renameF g q = g q := by
  induction L generalizing g with
  | nil => rfl
  | cons p rest ih =>
    rw [List.foldl_cons, ih _ (fun p' hp' => h p' (List.mem_cons_of_mem _ hp'))]
    obtain ⟨a, b⟩ := h p List.mem_cons_self
    simp only [renameF, Ne.symm b, Ne.symm a, if_false]

theorem renames_src_gone (L : List (K × K)) (hd : Disjoint L) (g : G) (p : K × K) (hp : p ∈ L) :
    L.foldl renameF g p.1 = none := by
  induction L generalizing g with
  | nil => cases hp
  | cons p0 rest ih =>
    rw [List.foldl_cons]
    rcases List.mem_cons.mp hp with rfl | hp'
    · rw [renames_untouched]
      · simp only [renameF, hd.sd p List.mem_cons_self p List.mem_cons_self, if_false, if_true]
      · intro p' hp'
        exact ⟨fun e => (List.nodup_cons.mp hd.src).1 (List.mem_map.mpr ⟨p', hp', e⟩),
               fun e => hd.sd p List.mem_cons_self p' (List.mem_cons_of_mem _ hp') e.symm⟩
    · exact ih hd.tail _ hp'

theorem fget_isSome {fs : Files} {q : K} : (fget fs q).isSome ↔ ∃ f ∈ fs, f.1 = q := by
  simp only [fget, Option.isSome_map, List.find?_isSome, beq_iff_eq]

/-- the directory holds exactly one file per entry of `E` (a row group with its position), under the name `κ` gives
    the entry: `Inv` with the naming scheme as a parameter -/
structure Keyed (fs : Files) (E : List Entry) (κ : Entry → K) : Prop where
  holds : ∀ e ∈ E, fget fs (κ e) = some e.1.rows
  only : ∀ q, (fget fs q).isSome → ∃ e ∈ E, κ e = q
  inj : ∀ e ∈ E, ∀ e' ∈ E, κ e = κ e' → e = e'

theorem Keyed.of_inv {ds : DS} (h : Inv ds) : Keyed ds.files ds.refs.zipIdx (fun e => key e.1) where
  holds := fun e he => h.refs_ok e.1 (List.fst_mem_of_mem_zipIdx he)
  only := fun q hq => by
    obtain ⟨f, hf, rfl⟩ := fget_isSome.mp hq
    obtain ⟨r, hr, e⟩ := h.files_ok f hf
    obtain ⟨i, hi⟩ := exists_mem_zipIdx hr
    exact ⟨(r, i), hi, e⟩
  inj := key_inj h.nodup

theorem Keyed.rename {fs : Files} {E : List Entry} {κ : Entry → K} (h : Keyed fs E κ) {e : Entry}
    (he : e ∈ E) (dst : K) (hfresh : ∀ e' ∈ E, κ e' ≠ dst) :
    ∃ fs', DatasetOps.rename fs (κ e) dst = .ok fs' ∧ Keyed fs' E (Function.update κ e dst) := by
  obtain ⟨fs', hok, hg⟩ := rename_ok fs (κ e) dst e.1.rows (h.holds e he)
  refine ⟨fs', hok, ?_, ?_, ?_⟩
  · intro a ha
    rw [hg, renameF]
    by_cases x : a = e
    · rw [x, Function.update_self, if_pos rfl]
      exact h.holds e he
    · rw [Function.update_of_ne x, if_neg (hfresh a ha), if_neg fun y => x (h.inj a ha e he y)]
      exact h.holds a ha
  · intro q hq
    rw [hg, renameF] at hq
    split at hq
    · next e1 => exact ⟨e, he, by rw [Function.update_self, e1]⟩
    · split at hq
      · cases hq
      · next e2 =>
        obtain ⟨a, ha, x⟩ := h.only q hq
        exact ⟨a, ha, by rw [Function.update_of_ne fun y => e2 (by rw [← x, y]), x]⟩
  · intro a ha b hb x
    by_cases xa : a = e <;> by_cases xb : b = e
    · rw [xa, xb]
    · rw [xa, Function.update_self, Function.update_of_ne xb] at x
      exact absurd x.symm (hfresh b hb)
    · rw [xb, Function.update_self, Function.update_of_ne xa] at x
      exact absurd x (hfresh a ha)
    · rw [Function.update_of_ne xa, Function.update_of_ne xb] at x
      exact h.inj a ha b hb x

theorem Keyed.renames {E : List Entry} (src dst : Entry → K) (T : List Entry) (hd : (T.map dst).Nodup)
    {fs : Files} {κ : Entry → K} (h : Keyed fs E κ) (hT : ∀ e ∈ T, e ∈ E ∧ src e = κ e)
    (hfresh : ∀ e ∈ T, ∀ a ∈ E, κ a ≠ dst e) :
    ∃ fs', T.foldlM (fun fs e => DatasetOps.rename fs (src e) (dst e)) fs = .ok fs' ∧
      Keyed fs' E (fun a => if a ∈ T then dst a else κ a) := by
  induction T generalizing fs κ with
  | nil => exact ⟨fs, rfl, by simpa using h⟩
  | cons e rest ih =>
    rw [List.map_cons, List.nodup_cons] at hd
    obtain ⟨he, hs⟩ := hT e List.mem_cons_self
    obtain ⟨fs1, h1, hA⟩ := h.rename he (dst e) (hfresh e List.mem_cons_self)
    have ne : ∀ e' ∈ rest, e' ≠ e := fun e' he' x => hd.1 (x ▸ List.mem_map_of_mem he')
    obtain ⟨fs', h2, hB⟩ := ih hd.2 hA
      (fun e' he' => by
        rw [Function.update_of_ne (ne e' he')]
        exact hT e' (List.mem_cons_of_mem _ he'))
      (fun e' he' a ha => by
        by_cases x : a = e
        · -- `e` already has its new name `dst e`, and no later destination is that one (`hd`)
          rw [x, Function.update_self]
          exact fun y => hd.1 (y ▸ List.mem_map_of_mem he')
        · rw [Function.update_of_ne x]
          exact hfresh e' (List.mem_cons_of_mem _ he') a ha)
    refine ⟨fs', by rw [List.foldlM_cons, hs, h1]; exact h2, ?_⟩
    have : (fun a => if a ∈ e :: rest then dst a else κ a)
        = fun a => if a ∈ rest then dst a else Function.update κ e (dst e) a := by
      funext a
      by_cases x : a = e
      · simp [x]
      · simp [x]
    rw [this]; exact hB

theorem partFiles_fold (l : List Entry) (acc : List (K × Nat))
    (hn : (acc.map (·.1) ++ l.map (fun p => key p.1)).Nodup) :
    l.foldl (fun (acc : List (K × Nat)) (p : Entry) =>
      if acc.any (·.1 == (p.1.dir, p.1.id)) then acc else acc ++ [((p.1.dir, p.1.id), p.2)]) acc
      = acc ++ l.map (fun p => (key p.1, p.2)) := by
  induction l generalizing acc with
  | nil => simp
  | cons p rest ih =>
    have hp : key p.1 ∉ acc.map (·.1) := fun hin =>
      (List.nodup_cons.mp (List.nodup_middle.mp hn)).1 (List.mem_append_left _ hin)
    rw [List.foldl_cons, if_neg, ih]
    · rw [List.append_assoc]; rfl
    · simpa [List.append_assoc, key] using hn
    · rw [Bool.not_eq_true, List.any_eq_false]
      exact fun a ha e => hp (List.mem_map.mpr ⟨a, ha, eq_of_beq e⟩)

theorem partFiles_nodup (refs : List RgRef) (hn : (refs.map key).Nodup) :
    partFiles refs = refs.zipIdx.map (fun p => (key p.1, p.2)) :=
  partFiles_fold refs.zipIdx [] (by rwa [List.map_nil, List.nil_append, zipIdx_map_fst'])

def todoRefs (refs : List RgRef) : List Entry := refs.zipIdx.filter (fun p => p.1.id != p.2)

theorem mem_todoRefs {refs : List RgRef} {e : Entry} :
    e ∈ todoRefs refs ↔ refs[e.2]? = some e.1 ∧ e.1.id ≠ e.2 := by
  simp [todoRefs, List.mem_filter, List.mem_zipIdx_iff_getElem?]

theorem todo_eq (refs : List RgRef) (hn : (refs.map key).Nodup) :
    (partFiles refs).filter (fun e => e.1.2 != e.2) = (todoRefs refs).map (fun p => (key p.1, p.2)) := by
  rw [partFiles_nodup refs hn, todoRefs, List.filter_map]; rfl

theorem foldlM_pair {α β γ ε : Type} (f : α → γ → Except ε α) (g : β → γ → β) (T : List γ) (a : α) (b : β) :
    T.foldlM (fun (st : α × β) e => do let a' ← f st.1 e; pure (a', g st.2 e)) (a, b)
      = T.foldlM f a >>= fun a' => pure (a', T.foldl g b) := by
  induction T generalizing a b with
  | nil => rfl
  | cons e rest ih =>
    show (f a e >>= fun a' => pure (a', g b e)) >>= (fun st => rest.foldlM _ st)
      = (f a e >>= fun a1 => rest.foldlM f a1) >>= _
    cases f a e with
    | error m => rfl
    | ok a1 => exact ih a1 (g b e)

theorem getElem?_foldl_mapIdx {α β : Type} (f : β → Nat → α → α) (T : List β) (R : List α) (i : Nat) :
    (T.foldl (fun R e => R.mapIdx (f e)) R)[i]? = R[i]?.map fun r => T.foldl (fun r e => f e i r) r := by
  induction T generalizing R with
  | nil => simp
  | cons e rest ih => rw [List.foldl_cons, ih, List.getElem?_mapIdx, Option.map_map]; rfl

theorem foldl_idem {α β : Type} (h : α → α) (hh : ∀ a, h (h a) = h a) (c : β → Bool) (T : List β) (a : α) :
    T.foldl (fun a e => if c e then h a else a) a = if T.any c then h a else a := by
  induction T generalizing a with
  | nil => rfl
  | cons e rest ih =>
    rw [List.foldl_cons, ih, List.any_cons]
    cases c e
    · rfl
    · simp only [if_true, Bool.true_or, hh, ite_self]

def renumber (refs : List RgRef) : List RgRef := refs.mapIdx (fun i r => { r with id := i })

theorem mem_renumber {refs : List RgRef} {r' : RgRef} :
    r' ∈ renumber refs ↔ ∃ e ∈ refs.zipIdx, { e.1 with id := e.2 } = r' := by
  simp only [renumber, List.mapIdx_eq_zipIdx_map, List.mem_map]

theorem renumber_nodup (refs : List RgRef) : ((renumber refs).map key).Nodup := by
  refine List.Nodup.of_map Prod.snd ?_
  have : ((renumber refs).map key).map Prod.snd = List.range refs.length :=
    List.ext_getElem (by simp [renumber]) fun i _ _ => by simp [renumber, key]
  rw [this]; exact List.nodup_range

theorem repoint_todo (refs : List RgRef) :
    (todoRefs refs).foldl (fun R p => R.mapIdx fun i r => if i == p.2 then { r with dir := p.1.dir, id := p.2 } else r) refs
      = renumber refs := by
  apply List.ext_getElem?
  intro i
  rw [getElem?_foldl_mapIdx, renumber, List.getElem?_mapIdx]
  cases hr : refs[i]? with
  | none => rfl
  | some r =>
    simp only [Option.map_some, Option.some.injEq]
    rw [List.foldl_ext _ (fun r' p => if i == p.2 then ({ r' with dir := r.dir, id := i } : RgRef) else r'),
      foldl_idem (fun r' : RgRef => { r' with dir := r.dir, id := i }) (fun _ => rfl) (fun p : Entry => i == p.2)]
    · split
      · rfl
      · next hany =>
        have : r.id = i := Decidable.not_not.mp fun n =>
          hany (List.any_eq_true.mpr ⟨(r, i), mem_todoRefs.mpr ⟨hr, n⟩, beq_self_eq_true i⟩)
        subst this; rfl
    · intro r' p hp
      by_cases e : i = p.2
      · have := (mem_todoRefs.mp hp).1
        rw [← e, hr] at this
        simp only [e, beq_self_eq_true, if_true, ← Option.some.inj this]
      · simp only [beq_iff_eq, e, if_false]

theorem sortPartNames_eq (ds : DS) (hn : (ds.refs.map key).Nodup) :
    sortPartNames ds = (fun F2 => ⟨F2, renumber ds.refs⟩) <$>
      ((todoRefs ds.refs).foldlM (fun fs e => rename fs (key e.1) (e.1.dir, tmpBase + e.2)) ds.files >>=
        (todoRefs ds.refs).foldlM fun fs e => rename fs (e.1.dir, tmpBase + e.2) (e.1.dir, e.2)) := by
  have e2 := fun F1 => foldlM_pair (fun fs (e : K × Nat) => rename fs (e.1.1, tmpBase + e.2) (e.1.1, e.2))
    (fun R (e : K × Nat) => R.mapIdx fun i r => if i == e.2 then { r with dir := e.1.1, id := e.2 } else r)
    ((todoRefs ds.refs).map fun p => (key p.1, p.2)) F1 ds.refs
  simp only [List.foldlM_map, List.foldl_map, key, repoint_todo] at e2
  simp only [sortPartNames, todo_eq ds.refs hn, List.foldlM_map, key, e2, bind_assoc, pure_bind, map_eq_pure_bind]

/-- ids and row-group positions stay below the number that stands for the `.tmp` suffix in the model -/
structure Bounded (ds : DS) : Prop where
  ids : ∀ r ∈ ds.refs, r.id < tmpBase
  len : ds.refs.length ≤ tmpBase

theorem sortPartNames_inv {ds : DS} (h : Inv ds) (hb : Bounded ds) :
    ∃ ds', sortPartNames ds = .ok ds' ∧ Inv ds' ∧ ds'.refs = renumber ds.refs := by
  have hpos : (ds.refs.zipIdx.map (·.2)).Nodup := by rw [List.zipIdx_map_snd]; exact List.nodup_range' ..
  have hnd : ∀ c : Nat, ((todoRefs ds.refs).map (fun e => (e.1.dir, c + e.2))).Nodup := fun c =>
    List.Nodup.of_map (fun k : K => k.2 - c)
      (by simpa only [todoRefs, List.map_map, Function.comp_def, Nat.add_sub_cancel_left] using
        (List.filter_sublist.map _).nodup hpos)
  have hE : ∀ e ∈ todoRefs ds.refs, e ∈ ds.refs.zipIdx := fun e he => (List.mem_filter.mp he).1
  have hid : ∀ a ∈ ds.refs.zipIdx, a ∉ todoRefs ds.refs → a.1.id = a.2 := fun a ha m => by
    simpa only [todoRefs, List.mem_filter, ha, bne_iff_ne, ne_eq, true_and, Decidable.not_not] using m
  -- pass 1: every file whose number is not its row group's position moves to its `.tmp` name
  obtain ⟨F1, h1, A1⟩ := Keyed.renames (fun e => key e.1) (fun e => (e.1.dir, tmpBase + e.2)) _ (hnd tmpBase) (Keyed.of_inv h)
    (fun e he => ⟨hE e he, rfl⟩)
    (fun e he a ha x => by
      have := hb.ids a.1 (List.fst_mem_of_mem_zipIdx ha)
      have : a.1.id = tmpBase + e.2 := congrArg Prod.snd x
      omega)
  -- pass 2: from there to the number that is the position
  obtain ⟨F2, h2, A2⟩ := Keyed.renames (fun e => (e.1.dir, tmpBase + e.2)) (fun e => (e.1.dir, e.2)) _
    (by simpa only [Nat.zero_add] using hnd 0) A1
    (fun e he => ⟨hE e he, by simp only [he, if_true]⟩)
    (fun e he a ha x => by
      by_cases m : a ∈ todoRefs ds.refs
      · simp only [m, if_true] at x
        have := Nat.lt_of_lt_of_le (List.snd_lt_of_mem_zipIdx (hE e he)) hb.len
        have : tmpBase + a.2 = e.2 := congrArg Prod.snd x
        omega
      · -- `a` sits at its own position, which is that of `e`: they are the same entry
        simp only [m, if_false] at x
        exact m (List.inj_on_of_nodup_map hpos ha (hE e he) (hid a ha m ▸ congrArg Prod.snd x) ▸ he))
  -- after both passes every entry is named by its position: moved there, or there all along
  have hκ : ∀ a ∈ ds.refs.zipIdx,
      (if a ∈ todoRefs ds.refs then (a.1.dir, a.2) else
        if a ∈ todoRefs ds.refs then (a.1.dir, tmpBase + a.2) else key a.1) = (a.1.dir, a.2) := by
    intro a ha
    by_cases m : a ∈ todoRefs ds.refs
    · simp only [m, if_true]
    · simp only [m, if_false, key, hid a ha m]
  refine ⟨⟨F2, renumber ds.refs⟩, ?_, ⟨?_, ?_, renumber_nodup _⟩, rfl⟩
  · rw [sortPartNames_eq ds h.nodup, h1]
    exact congrArg (_ <$> ·) h2
  · intro r' hr'
    obtain ⟨a, ha, rfl⟩ := mem_renumber.mp hr'
    have := A2.holds a ha
    rwa [hκ a ha] at this
  · intro f hf
    obtain ⟨a, ha, e⟩ := A2.only f.1 (fget_isSome.mpr ⟨f, hf, rfl⟩)
    exact ⟨_, mem_renumber.mpr ⟨a, ha, rfl⟩, by rw [← e, hκ a ha]; rfl⟩

theorem newRefs_length (off : Nat) (nd : NewData) (i : Nat) : (newRefs off i nd).length = (nd.map List.length).sum := by
  induction nd generalizing i with
  | nil => rfl
  | cons pieces rest ih => simp [newRefs, ih]

theorem maxPart_le {N : Nat} {refs : List RgRef} (h : ∀ r ∈ refs, r.id < N) : maxPart refs ≤ N :=
  maxPart_le_iff.mpr h

/-- room for the new row groups below the stand-in for the `.tmp` suffix -/
def Room (ds : DS) (nd : NewData) : Prop :=
  maxPart ds.refs + nd.length ≤ tmpBase ∧ ds.refs.length + (nd.map List.length).sum ≤ tmpBase

theorem addNew_bounded {ds : DS} {nd : NewData} (hb : Bounded ds) (hr : Room ds nd) : Bounded (addNew ds nd) := by
  refine ⟨fun r hr' => ?_, ?_⟩
  · simp only [addNew, List.mem_append] at hr'
    rcases hr' with h | h
    · exact hb.ids r h
    · have := newRefs_id h
      have := hr.1
      omega
  · simp only [addNew, List.length_append, newRefs_length]
    exact hr.2

/-- what an operation needs for the invariant to carry over -/
def OpOk (ds : DS) : Op → Prop
  | .write nd => PiecesOk nd
  | .append nd => PiecesOk nd
  | .overwrite nd sp => PiecesOk nd ∧ (sp = true → Bounded ds ∧ Room ds nd)
  | .remove _ sp => sp = true → Bounded ds
  | .writeSorted nd sp => PiecesOk nd ∧ (sp = true → Bounded ds ∧ Room ds nd)
  | .sortNames => Bounded ds

theorem inv_empty : Inv empty :=
  ⟨fun r hr => (by cases hr), fun f hf => (by cases hf), List.nodup_nil⟩

/-- the invariant, and the bound that renumbering needs if it is going to happen.  Every operation is
    new row groups, a re-ordering, a removal (each optional, each keeping `Ok`), then renumbering if asked. -/
def Ok (sp : Bool) (ds : DS) : Prop := Inv ds ∧ (sp = true → Bounded ds)

theorem Ok.addNew {sp : Bool} {ds : DS} {nd : NewData} (h : Inv ds) (hp : PiecesOk nd)
    (hb : sp = true → Bounded ds ∧ Room ds nd) : Ok sp (addNew ds nd) :=
  ⟨addNew_inv h hp, fun e => addNew_bounded (hb e).1 (hb e).2⟩

theorem Ok.perm {sp : Bool} {ds : DS} {refs' : List RgRef} (h : Ok sp ds) (hp : refs'.Perm ds.refs) :
    Ok sp { ds with refs := refs' } :=
  ⟨inv_perm h.1 hp, fun e => ⟨fun r hr => (h.2 e).ids r (hp.mem_iff.mp hr), hp.length_eq ▸ (h.2 e).len⟩⟩

theorem Ok.remove {sp : Bool} {ds : DS} (h : Ok sp ds) (idxs : List Nat) :
    Ok sp ⟨delAll ds.files (idxs.filterMap fun i => ds.refs[i]?), keepIdx ds.refs idxs⟩ :=
  ⟨h.1.remove idxs, fun e => ⟨fun r hr => (h.2 e).ids r ((keepIdx_sublist _ _).mem hr),
    Nat.le_trans (keepIdx_sublist _ _).length_le (h.2 e).len⟩⟩

theorem Ok.finish {sp : Bool} {ds : DS} (h : Ok sp ds) :
    ∃ ds', (if sp then sortPartNames ds else pure ds) = .ok ds' ∧ Inv ds' := by
  cases sp with
  | false => exact ⟨ds, rfl, h.1⟩
  | true =>
    obtain ⟨ds', e, hi, _⟩ := sortPartNames_inv h.1 (h.2 rfl)
    exact ⟨ds', e, hi⟩

/-- under its side condition an operation cannot fail, and it keeps the invariant -/
theorem step_ok {ds : DS} (op : Op) (h : Inv ds) (hop : OpOk ds op) : ∃ ds', step ds op = .ok ds' ∧ Inv ds' := by
  cases op with
  | write nd => exact ⟨_, rfl, addNew_inv inv_empty hop⟩
  | append nd => exact ⟨_, rfl, addNew_inv h hop⟩
  | remove idxs sp => exact (Ok.remove ⟨h, hop⟩ idxs).finish
  | sortNames => exact Ok.finish (sp := true) ⟨h, fun _ => hop⟩
  | overwrite nd sp => exact (((Ok.addNew h hop.1 hop.2).perm (stableSortBy_perm _ _)).remove _).finish
  | writeSorted nd sp => exact ((Ok.addNew h hop.1 hop.2).perm (stableSortBy_perm _ _)).finish

theorem step_inv {ds ds' : DS} (op : Op) (h : Inv ds) (hop : OpOk ds op) (hs : step ds op = .ok ds') : Inv ds' := by
  obtain ⟨_, e, hi⟩ := step_ok op h hop
  exact Except.ok.inj (e.symm.trans hs) ▸ hi

theorem overwrite_inv (ds ds' : DS) (nd : NewData) (h : Inv ds) (hp : PiecesOk nd)
    (hr : overwrite ds nd false = .ok ds') : Inv ds' :=
  step_inv (.overwrite nd false) h ⟨hp, fun e => nomatch e⟩ hr

/-- every step of the history meets its side condition in the state it is applied to -/
def HistOk (ds : DS) : List Op → Prop
  | [] => True
  | op :: ops => OpOk ds op ∧ (∀ ds', step ds op = .ok ds' → HistOk ds' ops)

theorem run_ok {ops : List Op} {ds : DS} (h : Inv ds) (hok : HistOk ds ops) : ∃ ds', run ds ops = .ok ds' ∧ Inv ds' := by
  induction ops generalizing ds with
  | nil => exact ⟨ds, rfl, h⟩
  | cons op ops ih =>
    obtain ⟨ds1, hs, h1⟩ := step_ok op h hok.1
    obtain ⟨ds', hr, h'⟩ := ih h1 (hok.2 ds1 hs)
    exact ⟨ds', by rw [run, List.foldlM_cons, hs]; exact hr, h'⟩

theorem run_inv {ops : List Op} {ds ds' : DS} (h : Inv ds) (hok : HistOk ds ops) (hr : run ds ops = .ok ds') : Inv ds' := by
  obtain ⟨_, e, hi⟩ := run_ok h hok
  exact Except.ok.inj (e.symm.trans hr) ▸ hi

/-! ### the side conditions are decidable (used for non-vacuity witnesses) -/
def piecesOkB (nd : NewData) : Bool := nd.all (fun pieces => decide (pieces.map (·.1)).Nodup)
def boundedB (ds : DS) : Bool := ds.refs.all (fun r => decide (r.id < tmpBase)) && decide (ds.refs.length ≤ tmpBase)
def roomB (ds : DS) (nd : NewData) : Bool :=
  decide (maxPart ds.refs + nd.length ≤ tmpBase) && decide (ds.refs.length + (nd.map List.length).sum ≤ tmpBase)

theorem piecesOkB_iff {nd : NewData} : piecesOkB nd = true ↔ PiecesOk nd := by
  simp only [piecesOkB, List.all_eq_true, decide_eq_true_eq, PiecesOk]

theorem boundedB_iff {ds : DS} : boundedB ds = true ↔ Bounded ds := by
  simp only [boundedB, Bool.and_eq_true, List.all_eq_true, decide_eq_true_eq]
  exact ⟨fun h => ⟨h.1, h.2⟩, fun h => ⟨h.ids, h.len⟩⟩

theorem roomB_iff {ds : DS} {nd : NewData} : roomB ds nd = true ↔ Room ds nd := by
  simp only [roomB, Bool.and_eq_true, decide_eq_true_eq, Room]

def opOkB (ds : DS) : Op → Bool
  | .write nd => piecesOkB nd
  | .append nd => piecesOkB nd
  | .overwrite nd sp => piecesOkB nd && (!sp || (boundedB ds && roomB ds nd))
  | .remove _ sp => !sp || boundedB ds
  | .writeSorted nd sp => piecesOkB nd && (!sp || (boundedB ds && roomB ds nd))
  | .sortNames => boundedB ds

theorem opOk_of_B {ds : DS} {op : Op} (h : opOkB ds op = true) : OpOk ds op := by
  cases op <;>
    simpa only [opOkB, OpOk, Bool.and_eq_true, Bool.or_eq_true, Bool.not_eq_true', piecesOkB_iff, boundedB_iff, roomB_iff,
      Decidable.imp_iff_not_or, Bool.not_eq_true] using h

def histOkB (ds : DS) : List Op → Bool
  | [] => true
  | op :: ops => opOkB ds op && (match step ds op with | .ok ds' => histOkB ds' ops | .error _ => true)

theorem histOk_of_B (ops : List Op) (ds : DS) (h : histOkB ds ops = true) : HistOk ds ops := by
  induction ops generalizing ds with
  | nil => trivial
  | cons op ops ih =>
    simp only [histOkB, Bool.and_eq_true] at h
    refine ⟨opOk_of_B h.1, fun ds' hs => ?_⟩
    have h2 := h.2
    rw [hs] at h2
    exact ih ds' h2

end PqV.Impl.DatasetOps
