import PqV.Spec.Thrift
import PqV.Lemmas.Varint
import PqV.Lemmas.Bits
namespace PqV.Spec

/-! `ok`: what the round trip needs of a value; `sz`: the fuel the decoder needs for it (nesting
    depth and list lengths) -/
mutual
  def TVal.ok : TVal → Bool
    | .bool _ => true
    | .i8 n => decide (-128 ≤ n) && decide (n < 128)
    | .i16 _ => true
    | .i32 _ => true
    | .i64 _ => true
    | .double b => decide (b < 2 ^ 64)
    | .binary _ => true
    | .list ety items => decide (ety < 16) && itemsOk ety items
    | .struct fs => fieldsOk 0 fs
  def itemsOk (ety : Nat) : List TVal → Bool
    | [] => true
    | v :: vs => decide (elemType v = ety) && v.ok && itemsOk ety vs
  def fieldsOk (prev : Nat) : List (Nat × TVal) → Bool
    | [] => true
    | (id, v) :: rest => decide (prev < id) && v.ok && fieldsOk id rest
end

mutual
  def TVal.sz : TVal → Nat
    | .list _ items => 1 + itemsSz items
    | .struct fs => 1 + fieldsSz fs
    | _ => 1
  def itemsSz : List TVal → Nat
    | [] => 1
    | v :: vs => 1 + max v.sz (itemsSz vs)
  def fieldsSz : List (Nat × TVal) → Nat
    | [] => 1
    | (_, v) :: rest => 1 + max v.sz (fieldsSz rest)
end

theorem itemsSz_cons_le {v : TVal} {vs : List TVal} {f : Nat} (h : itemsSz (v :: vs) ≤ f + 1) : v.sz ≤ f ∧ itemsSz vs ≤ f := by
  simp only [itemsSz] at h; omega

theorem fieldsSz_cons_le {id : Nat} {v : TVal} {rest : List (Nat × TVal)} {f : Nat} (h : fieldsSz ((id, v) :: rest) ≤ f + 1) :
    v.sz ≤ f ∧ fieldsSz rest ≤ f := by
  simp only [fieldsSz] at h; omega

theorem toSigned8_ofSigned8 (n : Int) (h1 : -128 ≤ n) (h2 : n < 128) : toSigned 8 (ofSigned 8 n) = n := by
  simp only [toSigned, ofSigned, Nat.reducePow, Nat.reduceSub, Nat.cast_ofNat]
  omega

theorem wireType_lt (v : TVal) : v.wireType < 16 ∧ 1 ≤ v.wireType := by
  cases v with
  | bool b => cases b <;> decide
  | _ => simp only [TVal.wireType]; decide

theorem takeN_append (a rest : List Nat) : takeN a.length (a ++ rest) = some (a, rest) := by
  simp [takeN, List.take_left' rfl, List.drop_left' rfl]

theorem encFields_cons_short {prev id : Nat} {v : TVal} {rest : List (Nat × TVal)} (h1 : prev < id) (h2 : id - prev ≤ 15) :
    encFields prev ((id, v) :: rest) = ((id - prev) * 16 + v.wireType) :: (encVal v ++ encFields id rest) := by
  simp [encFields, h1, h2]

theorem encFields_cons_long {prev id : Nat} {v : TVal} {rest : List (Nat × TVal)} (h : ¬ (prev < id ∧ id - prev ≤ 15)) :
    encFields prev ((id, v) :: rest) = v.wireType :: (uvarintEnc (zigzagEnc id) ++ (encVal v ++ encFields id rest)) := by
  simp only [encFields, if_neg h, List.cons_append, List.append_assoc]

theorem decFields_succ {f prev h : Nat} {r : List Nat} (h0 : h ≠ 0) :
    decFields (f + 1) prev (h :: r) =
      match (if h / 16 = 0 then (uvarintDec r).map fun (u, r') => ((zigzagDec u).toNat, r') else some (prev + h / 16, r)) with
      | none => none
      | some (id, r') =>
        match decVal f (h % 16) r' with
        | none => none
        | some (v, r'') => (decFields f id r'').map fun (fs, r3) => ((id, v) :: fs, r3) := by
  conv => lhs; unfold decFields
  split
  · rename_i heq; cases heq
  · rename_i heq; injection heq with ha; exact absurd ha h0
  · rename_i h' r' hne heq
    injection heq with ha hb
    subst ha; subst hb
    rfl

theorem dec_enc_all : ∀ (fuel : Nat),
    (∀ v : TVal, v.ok = true → v.sz ≤ fuel → ∀ rest, decVal fuel v.wireType (encVal v ++ rest) = some (v, rest)) ∧
    (∀ ety items, itemsOk ety items = true → itemsSz items ≤ fuel → ∀ rest,
      decItems fuel ety items.length (encItems items ++ rest) = some (items, rest)) ∧
    (∀ fs prev, fieldsOk prev fs = true → fieldsSz fs ≤ fuel → ∀ rest,
      decFields fuel prev (encFields prev fs ++ rest) = some (fs, rest)) := by
  intro fuel
  induction fuel with
  | zero =>
    refine ⟨?_, ?_, ?_⟩
    · intro v _ h; cases v <;> simp [TVal.sz] at h
    · intro ety items _ h; cases items <;> simp [itemsSz] at h
    · intro fs prev _ h; cases fs <;> simp [fieldsSz] at h
  | succ f ih =>
    obtain ⟨ihV, ihI, ihF⟩ := ih
    refine ⟨?_, ?_, ?_⟩
    · intro v hok hf rest
      cases v with
      | bool b => cases b <;> simp [TVal.wireType, encVal, decVal]
      | i8 n =>
        simp only [TVal.ok, Bool.and_eq_true, decide_eq_true_eq] at hok
        simp [TVal.wireType, encVal, decVal, toSigned8_ofSigned8 n hok.1 hok.2]
      | i16 n | i32 n | i64 n => simp [TVal.wireType, encVal, decVal, uvarint_rt, zigzag_rt]
      | double bits =>
        simp only [TVal.ok, decide_eq_true_eq] at hok
        have h8 := takeN_append (leBytes 8 bits) rest
        rw [leBytes_length] at h8
        simp [TVal.wireType, encVal, decVal, h8, leNat_leBytes_lt_two_pow (k := 8) hok]
      | binary bs =>
        simp only [TVal.wireType, encVal, decVal, List.append_assoc, uvarint_rt]
        simp [takeN_append]
      | list ety items =>
        simp only [TVal.ok, Bool.and_eq_true, decide_eq_true_eq] at hok
        have ih := ihI ety items hok.2 (by simp only [TVal.sz] at hf; omega) rest
        have hety := hok.1
        by_cases hl : items.length < 15
        · have h1 : (items.length * 16 + ety) % 16 = ety := by omega
          have h2 : (items.length * 16 + ety) / 16 = items.length := by omega
          have h3 : ¬ (items.length = 15) := by omega
          simp only [TVal.wireType, encVal, hl, if_true, List.cons_append, List.nil_append, decVal, h1, h2, h3, if_false, ih]
          simp
        · have h1 : (0xF0 + ety) % 16 = ety := by omega
          have h2 : (0xF0 + ety) / 16 = 15 := by omega
          simp only [TVal.wireType, encVal, hl, if_false, List.cons_append, List.append_assoc, decVal, h1, h2, if_true, uvarint_rt, ih]
          simp
      | struct fs =>
        simp only [TVal.ok] at hok
        have ih := ihF fs 0 hok (by simp only [TVal.sz] at hf; omega) rest
        simp [TVal.wireType, encVal, decVal, ih]
    · intro ety items hok hf rest
      cases items with
      | nil => simp [decItems, encItems]
      | cons v vs =>
        simp only [itemsOk, Bool.and_eq_true, decide_eq_true_eq] at hok
        obtain ⟨⟨hty, hv⟩, hvs⟩ := hok
        obtain ⟨hs1, hs2⟩ := itemsSz_cons_le hf
        have ih2 := ihI ety vs hvs hs2 rest
        cases v with
        | bool b =>
          obtain rfl : ety = 1 := by simpa [elemType] using hty.symm
          cases b <;> simp [decItems, encItems, ih2]
        | _ =>
          -- any other value sits in a list as it does in a field, under its own wire type
          have ih1 := ihV _ hv hs1 (encItems vs ++ rest)
          subst hty
          simp only [List.length_cons, encItems, List.append_assoc, elemType, TVal.wireType] at ih1 ih2 ⊢
          unfold decItems
          simp [ih1, ih2]
    · intro fs prev hok hf rest
      cases fs with
      | nil => simp [decFields, encFields]
      | cons p fs =>
        obtain ⟨id, v⟩ := p
        simp only [fieldsOk, Bool.and_eq_true, decide_eq_true_eq] at hok
        obtain ⟨⟨hid, hv⟩, hfs⟩ := hok
        obtain ⟨hs1, hs2⟩ := fieldsSz_cons_le hf
        have ih1 := ihV v hv hs1 (encFields id fs ++ rest)
        have ih2 := ihF fs id hfs hs2 rest
        -- the wire type is at least 1, so no field header is the stop byte 0 (`decFields_succ`)
        obtain ⟨hwt, hwt1⟩ := wireType_lt v
        by_cases hshort : prev < id ∧ id - prev ≤ 15
        · rw [encFields_cons_short hshort.1 hshort.2, List.cons_append, List.append_assoc, decFields_succ (by omega),
            show ((id - prev) * 16 + v.wireType) % 16 = v.wireType by omega,
            show ((id - prev) * 16 + v.wireType) / 16 = id - prev by omega, if_neg (by omega),
            show prev + (id - prev) = id by omega]
          simp only [ih1, ih2, Option.map_some]
        · rw [encFields_cons_long hshort, List.cons_append, List.append_assoc, List.append_assoc, decFields_succ (by omega),
            Nat.mod_eq_of_lt hwt, show v.wireType / 16 = 0 by omega, if_pos rfl, uvarint_rt]
          simp only [Option.map_some, zigzag_rt, Int.toNat_natCast, ih1, ih2]

theorem decVal_enc : ∀ (v : TVal), v.ok = true → ∀ (fuel : Nat), v.sz ≤ fuel → ∀ (rest : List Nat),
      decVal fuel v.wireType (encVal v ++ rest) = some (v, rest) :=
  fun v h fuel hf => (dec_enc_all fuel).1 v h hf

theorem decItems_enc (ety : Nat) : ∀ (items : List TVal), itemsOk ety items = true → ∀ (fuel : Nat), itemsSz items ≤ fuel →
      ∀ (rest : List Nat), decItems fuel ety items.length (encItems items ++ rest) = some (items, rest) :=
  fun items h fuel hf => (dec_enc_all fuel).2.1 ety items h hf

mutual
  theorem sz_le : ∀ (v : TVal), v.sz ≤ 2 * (encVal v).length + (match v with | .bool _ => 1 | _ => 0) ∧
      (match v with | .bool _ => True | _ => 1 ≤ (encVal v).length)
    | .bool _ => by simp [TVal.sz, encVal]
    | .i8 _ => by simp [TVal.sz, encVal]
    | .i16 n | .i32 n | .i64 n => by
      have := uvarintEnc_length_pos (zigzagEnc n)
      simp only [TVal.sz, encVal]; omega
    | .double b => by simp [TVal.sz, encVal, leBytes_length]
    | .binary bs => by
      have := uvarintEnc_length_pos bs.length
      simp only [TVal.sz, encVal, List.length_append]; omega
    | .list ety items => by
      have ih := itemsSz_le items
      simp only [TVal.sz, encVal, List.length_append]
      split <;> simp <;> omega
    | .struct fs => by
      have ih := fieldsSz_le fs 0
      simp only [TVal.sz, encVal]
      omega
  theorem itemsSz_le : ∀ (items : List TVal), itemsSz items ≤ 2 * (encItems items).length + 1
    | [] => by simp [itemsSz, encItems]
    | v :: vs => by
      have ih := itemsSz_le vs
      have hv := sz_le v
      simp only [itemsSz, encItems, List.length_append]
      -- on the statements' own `match`es (a boolean or not), not on the nine constructors
      split
      · simp only [TVal.sz, List.length_cons, List.length_nil]; omega
      · split at hv
        · rename_i h; exact (h _ rfl).elim
        · omega
  theorem fieldsSz_le : ∀ (fs : List (Nat × TVal)) (prev : Nat), fieldsSz fs + 1 ≤ 2 * (encFields prev fs).length
    | [], prev => by simp [fieldsSz, encFields]
    | (id, v) :: rest, prev => by
      have ih := fieldsSz_le rest id
      have hv := (sz_le v).1
      have hhdr : 1 ≤ (if prev < id ∧ id - prev ≤ 15 then [(id - prev) * 16 + v.wireType]
          else v.wireType :: uvarintEnc (zigzagEnc id)).length := by split <;> simp
      simp only [fieldsSz, encFields, List.length_append]
      split at hv <;> omega
end

end PqV.Spec
