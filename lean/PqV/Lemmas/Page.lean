import PqV.Spec.Plain
import PqV.Lemmas.Hybrid
/-! Page-level lemmas of the specification reader: null scatter, page splitting, dictionary look-up, and `RunStream`. -/
namespace PqV.Spec

def countMax (maxDef : Nat) (defs : List Nat) : Nat := (defs.filter (· == maxDef)).length

theorem countMax_cons (m d : Nat) (ds : List Nat) :
    countMax m (d :: ds) = (if d = m then 1 else 0) + countMax m ds := by
  unfold countMax
  by_cases h : d = m <;> simp [h]; omega

theorem countMax_append (m : Nat) (a b : List Nat) : countMax m (a ++ b) = countMax m a + countMax m b := by
  simp [countMax, List.filter_append]

theorem scatter_length (m : Nat) (defs : List Nat) (vals : List Cell) :
    (scatter m defs vals).length = defs.length := by
  induction defs generalizing vals with
  | nil => simp [scatter]
  | cons d ds ih =>
    unfold scatter
    split
    · cases vals <;> simp [ih]
    · simp [ih]

theorem countMax_cons_cases {m d : Nat} {ds : List Nat} {vals : List Cell} (h : vals.length = countMax m (d :: ds)) :
    (d = m ∧ ∃ v vs, vals = v :: vs ∧ vs.length = countMax m ds) ∨ (d ≠ m ∧ vals.length = countMax m ds) := by
  rw [countMax_cons] at h
  by_cases hd : d = m
  · cases vals with
    | nil => simp only [hd, if_true, List.length_nil] at h; omega
    | cons v vs => exact .inl ⟨hd, v, vs, rfl, by simp only [hd, if_true, List.length_cons] at h; omega⟩
  · exact .inr ⟨hd, by simpa [hd] using h⟩

/-- page splitting; `h` is what `num_values - num_nulls` guarantees for the first page -/
theorem scatter_append (m : Nat) (d1 d2 : List Nat) (v1 v2 : List Cell) (h : v1.length = countMax m d1) :
    scatter m (d1 ++ d2) (v1 ++ v2) = scatter m d1 v1 ++ scatter m d2 v2 := by
  induction d1 generalizing v1 with
  | nil =>
    have : v1 = [] := by simpa [countMax] using h
    subst this; simp [scatter]
  | cons d ds ih =>
    rcases countMax_cons_cases h with ⟨rfl, v, vs, rfl, h'⟩ | ⟨hd, h'⟩
    · simp [scatter, ih vs h']
    · simp [scatter, hd, ih v1 h']

theorem scatter_filter (m : Nat) (defs : List Nat) (vals : List Cell)
    (h : vals.length = countMax m defs) (hnn : ∀ v ∈ vals, v ≠ Cell.null) :
    (scatter m defs vals).filter (fun c => decide (c ≠ Cell.null)) = vals := by
  induction defs generalizing vals with
  | nil =>
    have : vals = [] := by simpa [countMax] using h
    subst this; simp [scatter]
  | cons d ds ih =>
    rcases countMax_cons_cases h with ⟨rfl, v, vs, rfl, h'⟩ | ⟨hd, h'⟩
    · simpa [scatter, hnn v List.mem_cons_self] using ih vs h' fun x hx => hnn x (List.mem_cons_of_mem _ hx)
    · simpa [scatter, hd] using ih vals h' hnn

theorem mapM_some {α β} (f : α → Option β) (g : α → β) (l : List α) (h : ∀ x ∈ l, f x = some (g x)) :
    l.mapM f = some (l.map g) := by
  induction l with
  | nil => rfl
  | cons x xs ih => simp [List.mapM_cons, h x List.mem_cons_self, ih fun y hy => h y (List.mem_cons_of_mem _ hy)]

theorem dict_lookup (d : List Cell) (ix : List Nat) (h : ∀ i ∈ ix, i < d.length) :
    ix.mapM (fun i => d[i]?) = some (ix.map fun i => d.getD i Cell.null) :=
  mapM_some _ _ ix fun i hi => by simp [h i hi, List.getD_eq_getElem?_getD]

/-- `bs` is a hybrid stream of well-formed runs of width `w` that begins with the values `xs`; whatever its last run
    holds beyond them is padding.  This is all a reader needs to know of a stream and all a writer has to show. -/
def RunStream (w : Nat) (xs bs : List Nat) : Prop :=
  ∃ rs : List Run, bs = encodeRuns w rs ∧ (∀ r ∈ rs, r.wf w = true) ∧ xs <+: rs.flatMap Run.values

namespace RunStream
variable {w : Nat} {xs bs : List Nat}

theorem of_runs {rs : List Run} (hwf : ∀ r ∈ rs, r.wf w = true) (n : Nat) :
    RunStream w ((rs.flatMap Run.values).take n) (encodeRuns w rs) :=
  ⟨rs, rfl, hwf, List.take_prefix _ _⟩

theorem rle (n : Nat) {v : Nat} (hv : v < 2 ^ w) :
    RunStream w (List.replicate n v) (uvarintEnc (n * 2) ++ leBytes ((w + 7) / 8) v) :=
  ⟨[.rle n v], by simp [encodeRuns, encodeRun], by simpa [Run.wf] using hv, by simp [Run.values]⟩

theorem bp {pad : List Nat} (h8 : (xs ++ pad).length % 8 = 0) (hv : ∀ v ∈ xs ++ pad, v < 2 ^ w) :
    RunStream w xs (uvarintEnc ((xs ++ pad).length / 8 * 2 + 1) ++ packLE w (xs ++ pad)) :=
  ⟨[.bp (xs ++ pad)], by simp [encodeRuns, encodeRun], fun r hr => by
    rw [List.mem_singleton.mp hr]
    simpa only [Run.wf, Bool.and_eq_true, decide_eq_true_eq, List.all_eq_true] using ⟨h8, hv⟩,
   by simp [Run.values]⟩

theorem decode (h : RunStream w xs bs) (tail : List Nat) : decodeHybrid w xs.length (bs ++ tail) = xs := by
  obtain ⟨rs, rfl, hwf, hp⟩ := h
  rw [decodeHybrid_encodeRuns w _ rs tail hwf hp.length_le]
  exact (List.prefix_iff_eq_take.mp hp).symm

theorem tight (h : RunStream w xs bs) (tail : List Nat) : hybridTight w xs.length (bs ++ tail) = true := by
  obtain ⟨rs, rfl, hwf, hp⟩ := h
  exact hybridTight_encodeRuns w _ rs tail hwf hp.length_le

theorem dictIndices (h : RunStream w xs bs) (tail : List Nat) :
    Spec.dictIndices xs.length (w :: (bs ++ tail)) = some xs := by
  simp only [Spec.dictIndices, h.decode tail, ne_eq, not_true_eq_false, if_false]

end RunStream

theorem dictIndices_runs (w n : Nat) (rs : List Run) (tail : List Nat)
    (hwf : ∀ r ∈ rs, r.wf w = true) (hn : n ≤ (rs.flatMap Run.values).length) :
    dictIndices n (w :: (encodeRuns w rs ++ tail)) = some ((rs.flatMap Run.values).take n) := by
  have := (RunStream.of_runs hwf n).dictIndices tail
  rwa [List.length_take_of_le hn] at this

/-! The PLAIN decoders of the specification reader on items laid down one after the other: one loop lemma per decoder,
    generic in what the items are (numbers in Props.C02, cells in Lemmas.WritePage). -/

theorem flatMap_length_const {α} (f : α → List Nat) (w : Nat) (l : List α) (h : ∀ x ∈ l, (f x).length = w) :
    (l.flatMap f).length = l.length * w := by
  rw [List.length_flatMap, List.map_congr_left h, List.map_const', List.sum_replicate_nat]

theorem fixedWidth_some {ptype tl w : Nat} (hw : fixedWidth ptype tl = some w) : ptype ≠ PT_BOOLEAN ∧ ptype ≠ PT_BYTE_ARRAY := by
  constructor <;> (rintro rfl; cases hw)

theorem plainFixed_flatMap {α} (w : Nat) (asBytes : Bool) (enc : α → List Nat) (cell : α → Cell) (xs : List α) (tail : List Nat)
    (h : ∀ x ∈ xs, (enc x).length = w ∧ (if asBytes then Cell.bytes (enc x) else Cell.int (leNat (enc x))) = cell x) :
    ∀ acc, plainFixed w asBytes xs.length (xs.flatMap enc ++ tail) acc = acc.reverse ++ xs.map cell := by
  induction xs with
  | nil => intro acc; simp [plainFixed]
  | cons x xs ih =>
    intro acc
    obtain ⟨hl, hx⟩ := h x List.mem_cons_self
    simp only [List.flatMap_cons, List.length_cons, plainFixed, List.append_assoc, List.take_left' hl, List.drop_left' hl, hx]
    rw [ih (fun y hy => h y (List.mem_cons_of_mem _ hy))]
    simp

theorem plainDecode_fixed {α} {ptype tl w : Nat} (hw : fixedWidth ptype tl = some w)
    (enc : α → List Nat) (cell : α → Cell) (xs : List α) (tail : List Nat)
    (h : ∀ x ∈ xs, (enc x).length = w ∧
      (if decide (ptype = PT_FLBA) then Cell.bytes (enc x) else Cell.int (leNat (enc x))) = cell x) :
    plainDecode ptype tl xs.length (xs.flatMap enc ++ tail) = some (xs.map cell) := by
  obtain ⟨hb, hba⟩ := fixedWidth_some hw
  have hlen : ¬ (xs.flatMap enc ++ tail).length < xs.length * w := by
    rw [List.length_append, flatMap_length_const enc w xs (fun x hx => (h x hx).1)]; omega
  have := plainFixed_flatMap w (decide (ptype = PT_FLBA)) enc cell xs tail h []
  simp only [plainDecode, hb, hba, if_false, hw, hlen, this, List.reverse_nil, List.nil_append]

theorem plainByteArrays_flatMap {α} (enc : α → List Nat) (cell : α → Cell) (xs : List α) (tail : List Nat)
    (h : ∀ x ∈ xs, ∃ b : List Nat, b.length < 2 ^ 32 ∧ enc x = leBytes 4 b.length ++ b ∧ cell x = Cell.bytes b) :
    ∀ acc, plainByteArrays xs.length (xs.flatMap enc ++ tail) acc = some (acc.reverse ++ xs.map cell) := by
  induction xs with
  | nil => intro acc; simp [plainByteArrays]
  | cons x xs ih =>
    intro acc
    obtain ⟨b, hb, he, hc⟩ := h x List.mem_cons_self
    have h3 : leNat (leBytes 4 b.length) = b.length := leNat_leBytes_lt_two_pow hb
    have hlen : ¬ (leBytes 4 b.length ++ (b ++ (xs.flatMap enc ++ tail))).length < 4 := by simp [leBytes_length]
    have hlen2 : ¬ (b ++ (xs.flatMap enc ++ tail)).length < b.length := by simp
    simp only [List.flatMap_cons, List.length_cons, plainByteArrays, he, List.append_assoc, hlen, if_false, take_leBytes_append,
      drop_leBytes_append, h3, hlen2, List.take_left' rfl, List.drop_left' rfl]
    rw [ih (fun y hy => h y (List.mem_cons_of_mem _ hy))]
    simp [hc]

end PqV.Spec
