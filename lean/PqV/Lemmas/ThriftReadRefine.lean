import PqV.Lemmas.ThriftSerRefine
namespace PqV.Impl.ThriftSer
open PqV.Impl PqV.Spec

/-! The reader model (`read_thrift`, `read_list`) inverts the specification encoder on everything the
    serialiser can emit (`read_enc_all`), and the IDL-level reading of what it returns is the value
    that was encoded (`spec_py_all`). -/

/-! what the reader returns for a specification value -/
mutual
  def pyOf : TVal → PyT
    | .bool b => .bool b
    | .i8 n => .int n
    | .i16 n => .int n
    | .i32 n => .int n
    | .i64 n => .int n
    | .double b => .float b
    | .binary bs => .bytes bs
    | .list _ items => .list (pyItems items)
    | .struct fs => .dict (if has32 fs then (if has64 fs then .ids (ids32 fs) else .all) else .none) (pyFields fs)
  def pyItems : List TVal → List PyT
    | [] => []
    | v :: vs => (match v with | .binary bs => PyT.str bs | .struct fs => pyOf (.struct fs) | .i32 n => .int n | _ => PyT.none) :: pyItems vs
  def pyFields : List (Nat × TVal) → List (Nat × PyT)
    | [] => []
    | (id, v) :: rest => (id, pyOf v) :: pyFields rest
  def has32 : List (Nat × TVal) → Bool
    | [] => false
    | (_, v) :: rest => (match v with | .i32 _ => true | _ => false) || has32 rest
  def has64 : List (Nat × TVal) → Bool
    | [] => false
    | (_, v) :: rest => (match v with | .i64 _ => true | _ => false) || has64 rest
  def ids32 : List (Nat × TVal) → List Nat
    | [] => []
    | (id, v) :: rest => (match v with | .i32 _ => [id] | _ => []) ++ ids32 rest
end

/-- the branch of `readFields` for type nibble `t`; `put` is the rest of the loop (the closure of
    the same name in the model), called with the decoded value, the remaining bytes and the updated flags -/
def readField {α : Type} (f t : Nat) (r : List Nat) (id : Nat) (h32 h64 : Bool) (i32s : List Nat)
    (put : PyT → List Nat → Bool → Bool → List Nat → Option α) : Option α :=
  if t = 5 then
    match readUvarint r 0 with
    | .ok (u, k) => put (.int (zigzagLong u)) (r.drop k) true h64 (i32s ++ [id])
    | .error _ => Option.none
  else if t = 6 ∨ t = 4 then
    match readUvarint r 0 with
    | .ok (u, k) => put (.int (zigzagLong u)) (r.drop k) h32 (h64 || t == 6) i32s
    | .error _ => Option.none
  else if t = 7 then
    if r.length < 8 then Option.none else put (.float (leNat (r.take 8))) (r.drop 8) h32 h64 i32s
  else if t = 8 then
    match readUvarint r 0 with
    | .ok (n, k) => if (r.drop k).length < n then Option.none else put (.bytes ((r.drop k).take n)) ((r.drop k).drop n) h32 h64 i32s
    | .error _ => Option.none
  else if t = 9 then
    match readList f r with
    | some (l, r') => put (.list l) r' h32 h64 i32s
    | Option.none => Option.none
  else if t = 12 then
    match readThrift f r with
    | some (d, r') => put d r' h32 h64 i32s
    | Option.none => Option.none
  else if t = 1 then put (.bool true) r h32 h64 i32s
  else if t = 2 then put (.bool false) r h32 h64 i32s
  else if t = 3 then
    match r with | b :: r' => put (.int b) r' h32 h64 i32s | [] => Option.none
  else Option.none

theorem readFields_succ {f byte : Nat} {r : List Nat} {id : Nat} {acc : List (Nat × PyT)} {h32 h64 : Bool} {i32s : List Nat}
    (h0 : byte ≠ 0) :
    readFields (f + 1) (byte :: r) id acc h32 h64 i32s =
      readField f (byte &&& 0x0F) r ((id + (byte &&& 0xF0) / 16) % 256) h32 h64 i32s fun v r' a b c =>
        readFields f r' ((id + (byte &&& 0xF0) / 16) % 256)
          (acc.filter (·.1 != (id + (byte &&& 0xF0) / 16) % 256) ++ [((id + (byte &&& 0xF0) / 16) % 256, v)]) a b c := by
  conv => lhs; unfold readFields
  split
  · rename_i heq; cases heq
  · rename_i heq; injection heq with ha; exact absurd ha h0
  · rename_i b r' hne heq
    injection heq with ha hb
    subst ha; subst hb
    rfl

theorem readFields_short {f prev id t : Nat} {r : List Nat} {acc : List (Nat × PyT)} {h32 h64 : Bool} {i32s : List Nat}
    (hp : prev < id) (hid : id < 16) (ht : t < 16) (hacc : ∀ e ∈ acc, e.1 ≤ prev) :
    readFields (f + 1) (((id - prev) * 16 + t) :: r) prev acc h32 h64 i32s =
      readField f t r id h32 h64 i32s fun v r' a b c => readFields f r' id (acc ++ [(id, v)]) a b c := by
  have hnew : acc.filter (·.1 != id) = acc :=
    List.filter_eq_self.mpr fun e he => by have := hacc e he; simp only [bne_iff_ne, ne_eq]; omega
  rw [readFields_succ (by omega), and0F, andF0_div, show ((id - prev) * 16 + t) % 16 = t by omega,
    show (prev + ((id - prev) * 16 + t) / 16 % 16) % 256 = id by omega, hnew]

theorem readFields_bool (f prev id : Nat) (b : Bool) (r : List Nat) (acc : List (Nat × PyT)) (h32 h64 : Bool) (i32s : List Nat)
    (hp : prev < id) (hid : id < 16) (hacc : ∀ e ∈ acc, e.1 ≤ prev) :
    readFields (f + 1) (((id - prev) * 16 + (if b then 1 else 2)) :: r) prev acc h32 h64 i32s
      = readFields f r id (acc ++ [(id, .bool b)]) h32 h64 i32s := by
  rw [readFields_short hp hid (by split <;> omega) hacc]
  cases b <;> rfl

theorem readList_open {g ety n : Nat} {body : List Nat} (hety : ety < 16) (hn : n < 2 ^ 64) :
    readList (g + 1) ((if n < 15 then [n * 16 + ety] else (0xF0 + ety) :: uvarintEnc n) ++ body)
      = readItems g ety n body := by
  have hlong : PqV.Gen.Specs.readLongFrom = 240 := rfl
  by_cases hl : n < 15
  · simp only [hl, if_true, List.cons_append, List.nil_append, readList, hlong, and0F, andF0_div,
      show ¬ (n * 16 + ety ≥ 240) by omega, if_false, show (n * 16 + ety) % 16 = ety by omega,
      show (n * 16 + ety) / 16 % 16 = n by omega]
  · obtain ⟨r1, r2⟩ := readUvarint_enc_head hn body
    simp only [hl, if_false, List.cons_append, readList, hlong, and0F, show 0xF0 + ety ≥ 240 by omega, if_true,
      show (0xF0 + ety) % 16 = ety by omega, r1, r2]

theorem has32_cons (id : Nat) (v : TVal) (rest : List (Nat × TVal)) :
    has32 ((id, v) :: rest) = (v.wireType == 5 || has32 rest) := by
  cases v with
  | bool b => cases b <;> rfl
  | _ => rfl

theorem has64_cons (id : Nat) (v : TVal) (rest : List (Nat × TVal)) :
    has64 ((id, v) :: rest) = (v.wireType == 6 || has64 rest) := by
  cases v with
  | bool b => cases b <;> rfl
  | _ => rfl

theorem ids32_cons (id : Nat) (v : TVal) (rest : List (Nat × TVal)) :
    ids32 ((id, v) :: rest) = (if v.wireType = 5 then [id] else []) ++ ids32 rest := by
  cases v with
  | bool b => cases b <;> rfl
  | _ => rfl

theorem readField_enc {α : Type} {f : Nat} {v : TVal}
    (hL : ∀ ety items, canon (.list ety items) = true → (TVal.list ety items).sz ≤ f → ∀ tail,
      readList f (encVal (.list ety items) ++ tail) = some (pyItems items, tail))
    (hT : ∀ fs, canonFields 0 fs = true → (TVal.struct fs).sz ≤ f → ∀ tail,
      readThrift f (encFields 0 fs ++ tail) = some (pyOf (.struct fs), tail))
    (hc : canon v = true) (hs : v.sz ≤ f) (rest : List Nat) (id : Nat) (h32 h64 : Bool) (i32s : List Nat)
    (put : PyT → List Nat → Bool → Bool → List Nat → Option α) :
    readField f v.wireType (encVal v ++ rest) id h32 h64 i32s put =
      put (pyOf v) rest (h32 || v.wireType == 5) (h64 || v.wireType == 6)
        (if v.wireType = 5 then i32s ++ [id] else i32s) := by
  cases v with
  | bool b => cases b <;> simp [readField, TVal.wireType, encVal, pyOf]
  | i32 n | i64 n =>
    simp only [canon, okInt_iff] at hc
    obtain ⟨r1, r2⟩ := readUvarint_enc_head (zigzagEnc_lt64 n hc) rest
    simp [readField, TVal.wireType, encVal, pyOf, r1, r2, zigzagLong_enc n hc]
  | double bits =>
    have hb : bits < 2 ^ 64 := by simpa [canon] using hc
    have hl8 : (leBytes 8 bits).length = 8 := leBytes_length 8 bits
    simp [readField, TVal.wireType, encVal, pyOf, hl8, List.take_left' hl8, List.drop_left' hl8, leNat_leBytes_lt_two_pow (k := 8) hb]
  | binary bs =>
    have hn : bs.length < 2 ^ 64 := by simpa [canon] using hc
    obtain ⟨r1, r2⟩ := readUvarint_enc_head hn (bs ++ rest)
    simp [readField, TVal.wireType, encVal, pyOf, r1, r2]
  | list ety items => simp [readField, TVal.wireType, pyOf, hL ety items hc hs rest]
  | struct fs =>
    have := hT fs (by simpa [canon] using hc) hs rest
    simp only [encVal]
    simp [readField, TVal.wireType, this]
  | i8 n | i16 n => simp [canon] at hc

theorem read_enc_all : ∀ (fuel : Nat),
    (∀ ety items, canonItems ety items = true → itemsSz items ≤ fuel → ∀ tail,
      readItems fuel ety items.length (encItems items ++ tail) = some (pyItems items, tail)) ∧
    (∀ fs prev, canonFields prev fs = true → fieldsSz fs ≤ fuel →
      ∀ acc h32 h64 i32s tail, (∀ e ∈ acc, e.1 ≤ prev) →
      readFields fuel (encFields prev fs ++ tail) prev acc h32 h64 i32s
        = some (acc ++ pyFields fs, i32s ++ ids32 fs, h32 || has32 fs, h64 || has64 fs, tail)) ∧
    (∀ fs, canonFields 0 fs = true → (TVal.struct fs).sz ≤ fuel → ∀ tail,
      readThrift fuel (encFields 0 fs ++ tail) = some (pyOf (.struct fs), tail)) ∧
    (∀ ety items, canon (.list ety items) = true → (TVal.list ety items).sz ≤ fuel → ∀ tail,
      readList fuel (encVal (.list ety items) ++ tail) = some (pyItems items, tail)) := by
  intro fuel
  induction fuel with
  | zero =>
    refine ⟨?_, ?_, ?_, ?_⟩
    · intro ety items _ h; cases items <;> simp [itemsSz] at h
    · intro fs prev _ h; cases fs <;> simp [fieldsSz] at h
    · intro fs _ h; simp [TVal.sz] at h
    · intro ety items _ h; simp [TVal.sz] at h
  | succ f ih =>
    obtain ⟨ihI, ihF, ihT, ihL⟩ := ih
    refine ⟨?_, ?_, ?_, ?_⟩
    · intro ety items hok hf tail
      cases items with
      | nil => rfl
      | cons v vs =>
        obtain ⟨hs1, hs2⟩ := itemsSz_cons_le hf
        obtain ⟨⟨n, rfl, rfl, hn⟩ | ⟨bs, rfl, rfl, hn⟩ | ⟨fs, rfl, rfl, hfs⟩, hvs⟩ := canonItems_cons hok
        · obtain ⟨r1, r2⟩ := readUvarint_enc_head (zigzagEnc_lt64 n (okInt_iff.mp hn)) (encItems vs ++ tail)
          simp only [List.length_cons, encItems, encVal, List.append_assoc, readItems, true_or, if_true, r1, r2,
            ihI 5 vs hvs hs2 tail, Option.map_some, zigzagLong_enc n (okInt_iff.mp hn), pyItems]
        · obtain ⟨r1, r2⟩ := readUvarint_enc_head hn (bs ++ (encItems vs ++ tail))
          have hlen : ¬ ((bs ++ (encItems vs ++ tail)).length < bs.length) := by simp
          simp only [List.length_cons, encItems, encVal, List.append_assoc, readItems, Nat.reduceEqDiff, or_self, if_false, if_true, r1, r2, hlen,
            List.take_left' rfl, List.drop_left' rfl, ihI 8 vs hvs hs2 tail, Option.map_some, pyItems]
        · simp only [List.length_cons, encItems, encVal, List.append_assoc, readItems, Nat.reduceEqDiff, or_self, if_false,
            ihT fs hfs hs1, ihI 12 vs hvs hs2 tail, Option.map_some, pyItems]
    · intro fs prev hok hf acc h32 h64 i32s tail hacc
      cases fs with
      | nil => simp [readFields, encFields, pyFields, ids32, has32, has64]
      | cons p rest =>
        obtain ⟨id, v⟩ := p
        obtain ⟨⟨hp, hid⟩, hv, hrest⟩ := canonFields_cons.mp hok
        have hid16 : id < 16 := Nat.lt_of_lt_of_le hid loopHi_le
        obtain ⟨hs1, hs2⟩ := fieldsSz_cons_le hf
        have hwt := (wireType_lt v).1
        -- the keys read so far stay below the next id, so `out[id] = v` never overwrites (`readFields_short`)
        have hacc' : ∀ e ∈ acc ++ [(id, pyOf v)], e.1 ≤ id := by
          intro e he
          rcases List.mem_append.mp he with h | h
          · have := hacc e h; omega
          · simp only [List.mem_singleton] at h; subst h; exact Nat.le_refl _
        rw [encFields_cons_short hp (by omega), List.cons_append, List.append_assoc,
          readFields_short hp hid16 hwt hacc,
          readField_enc ihL ihT hv hs1, ihF rest id hrest hs2 _ _ _ _ tail hacc']
        simp only [pyFields, has32_cons, has64_cons, ids32_cons, List.append_assoc, Bool.or_assoc, List.cons_append,
          List.nil_append]
        split <;> simp
    · intro fs hc hf tail
      simp only [TVal.sz] at hf
      simp only [readThrift, ihF fs 0 hc (by omega) [] false false [] tail (by intro e he; cases he), Option.map_some,
        pyOf, List.nil_append, Bool.false_or]
    · intro ety items hc hf tail
      simp only [TVal.sz] at hf
      obtain ⟨hety, _, hlen, hitems⟩ := canon_list hc
      rw [encVal, List.append_assoc, readList_open hety hlen, ihI ety items hitems (by omega) tail]

theorem readItems_enc (ety : Nat) : ∀ (items : List TVal), canonItems ety items = true → ∀ (fuel : Nat), itemsSz items ≤ fuel →
      ∀ (tail : List Nat), readItems fuel ety items.length (encItems items ++ tail) = some (pyItems items, tail) :=
  fun items h fuel hf => (read_enc_all fuel).1 ety items h hf

theorem fromBuffer_enc {fs : List (Nat × TVal)} (hc : canonFields 0 fs = true) (tail : List Nat) :
    fromBuffer (encFields 0 fs ++ tail) = some (pyOf (.struct fs), tail) := by
  have hsz := fieldsSz_le fs 0
  exact (read_enc_all _).2.2.1 fs hc (by simp only [TVal.sz, List.length_append]; omega) tail

def markerOf (fs : List (Nat × TVal)) : Marker :=
  if has32 fs then (if has64 fs then .ids (ids32 fs) else .all) else .none

theorem pyOf_struct (fs : List (Nat × TVal)) : pyOf (.struct fs) = .dict (markerOf fs) (pyFields fs) := by
  rw [pyOf, markerOf]

/-! fuel the IDL-level reading of the read-back structure needs -/
mutual
  def need : TVal → Nat
    | .list _ items => 2 + needItems items
    | .struct fs => 16 + needFields fs
    | _ => 1
  def needItems : List TVal → Nat
    | [] => 1
    | v :: vs => 1 + max (need v) (needItems vs)
  def needFields : List (Nat × TVal) → Nat
    | [] => 1
    | (_, v) :: rest => max (need v) (needFields rest)
end

theorem has32_eq (fs : List (Nat × TVal)) : has32 fs = fs.any (·.2.wireType == 5) := by
  induction fs with
  | nil => rfl
  | cons p r ih => rw [has32_cons, ih, List.any_cons]

theorem has64_eq (fs : List (Nat × TVal)) : has64 fs = fs.any (·.2.wireType == 6) := by
  induction fs with
  | nil => rfl
  | cons p r ih => rw [has64_cons, ih, List.any_cons]

theorem ids32_eq (fs : List (Nat × TVal)) : ids32 fs = (fs.filter (·.2.wireType == 5)).map (·.1) := by
  induction fs with
  | nil => rfl
  | cons p r ih =>
    rw [ids32_cons, ih, List.filter_cons]
    by_cases h : p.2.wireType = 5 <;> simp [h]

theorem canonFields_sorted {fs : List (Nat × TVal)} {prev : Nat} (h : canonFields prev fs = true) :
    (∀ p ∈ fs, prev < p.1) ∧ fs.Pairwise (fun p q => p.1 < q.1) := by
  induction fs generalizing prev with
  | nil => exact ⟨fun _ hp => (by cases hp), .nil⟩
  | cons a rest ih =>
    obtain ⟨id, v⟩ := a
    obtain ⟨⟨hlt, _⟩, _, hr⟩ := canonFields_cons.mp h
    obtain ⟨hgt, hs⟩ := ih hr
    exact ⟨List.forall_mem_cons.mpr ⟨hlt, fun p hp => Nat.lt_trans hlt (hgt p hp)⟩, .cons hgt hs⟩

theorem canonFields_unique {fs : List (Nat × TVal)} {prev : Nat} (h : canonFields prev fs = true) :
    ∀ p ∈ fs, ∀ q ∈ fs, p.1 = q.1 → p = q := by
  have hs := (canonFields_sorted h).2
  exact fun p hp q hq => List.Pairwise.forall_of_forall_of_flip (R := fun p q => p.1 = q.1 → p = q) (fun _ _ _ => rfl)
    (hs.imp fun hlt e => absurd e (Nat.ne_of_lt hlt)) (hs.imp fun hlt e => absurd e.symm (Nat.ne_of_lt hlt)) hp hq

theorem lookup_cons (id : Nat) (v : PyT) (rest : List (Nat × PyT)) (j : Nat) :
    lookup ((id, v) :: rest) j = if id = j then some v else lookup rest j := by
  by_cases h : id = j <;> simp [lookup, h]

theorem lookup_pyFields_lt (fs : List (Nat × TVal)) (prev i : Nat) (h : canonFields prev fs = true) (hi : i ≤ prev) :
    lookup (pyFields fs) i = Option.none := by
  induction fs generalizing prev with
  | nil => rfl
  | cons p rest ih =>
    obtain ⟨id, v⟩ := p
    obtain ⟨⟨hlt, _⟩, _, hr⟩ := canonFields_cons.mp h
    rw [pyFields, lookup_cons, if_neg (by omega), ih id hr (by omega)]

theorem marker_i32 (fs : List (Nat × TVal)) (i : Nat) (n : Int)
    (hm : (i, TVal.i32 n) ∈ fs) : isI32 (markerOf fs) i = true := by
  have h32 : has32 fs = true := by rw [has32_eq, List.any_eq_true]; exact ⟨_, hm, rfl⟩
  simp only [markerOf, h32, if_true]
  split
  · simp only [isI32, List.contains_eq_mem, decide_eq_true_eq, ids32_eq, List.mem_map, List.mem_filter]
    exact ⟨_, ⟨hm, rfl⟩, rfl⟩
  · rfl

theorem marker_i64 (fs : List (Nat × TVal)) (prev : Nat) (h : canonFields prev fs = true) (i : Nat) (n : Int)
    (hm : (i, TVal.i64 n) ∈ fs) : isI32 (markerOf fs) i = false := by
  have h64 : has64 fs = true := by rw [has64_eq, List.any_eq_true]; exact ⟨_, hm, rfl⟩
  simp only [markerOf, h64, if_true]
  split
  · simp only [isI32, List.contains_eq_mem, decide_eq_false_iff_not, ids32_eq, List.mem_map, List.mem_filter]
    rintro ⟨p, ⟨hp, hw⟩, e⟩
    obtain rfl := canonFields_unique h _ hp _ hm e
    simp [TVal.wireType] at hw
  · rfl

def kindOfTy (ety : Nat) : Nat := if ety = 5 then 0 else if ety = 8 then 1 else 2

theorem pyOf_ne_none (v : TVal) : pyOf v ≠ PyT.none := by
  cases v <;> simp [pyOf]

theorem pyItems_length (l : List TVal) : (pyItems l).length = l.length := by
  induction l with
  | nil => rfl
  | cons x xs ih => simp [pyItems, ih]

theorem specVal_py {f : Nat} {b : Bool} {v : TVal}
    (hL : ∀ ety items, canon (.list ety items) = true → 2 + needItems items ≤ f →
      specList f (pyItems items) = some (.list ety items))
    (hT : ∀ fs, canonFields 0 fs = true → 15 + needFields fs ≤ f → specThrift f (markerOf fs) (pyFields fs) = some fs)
    (hc : canon v = true) (hn : need v ≤ f) (h32 : ∀ n, v = .i32 n → b = true) (h64 : ∀ n, v = .i64 n → b = false) :
    specVal f b (pyOf v) = some v := by
  cases v with
  | bool c => rfl
  | i32 n => simp only [canon] at hc; simp [specVal, pyOf, hc, h32 n rfl]
  | i64 n => simp only [canon] at hc; simp [specVal, pyOf, hc, h64 n rfl]
  | double bits | binary bs => simpa [specVal, pyOf, canon] using hc
  | list ety items => exact hL ety items hc (by simpa only [need] using hn)
  | struct fs =>
    simp only [canon] at hc
    simp only [need] at hn
    simp only [pyOf_struct, specVal, hT fs hc (by omega), Option.map_some]
  | i8 n | i16 n => simp [canon] at hc

/-- the IDL-level reading of what the reader returns is the value that was encoded: list items, the
    serialiser's field loop past field `i` (over any entries that hold, from there on, what the reader
    returns for `rest`, under any marker that tells its i32 from its i64 fields), structures, lists.
    By induction on the fuel: recursion on the value is not structural here (item lists and field
    lists are different nested types), and the well-founded recursion Lean falls back on is very slow
    to elaborate. -/
theorem spec_py_all : ∀ (fuel : Nat),
    (∀ ety items, canonItems ety items = true → needItems items ≤ fuel →
      specListItems fuel (kindOfTy ety) (pyItems items) = some items) ∧
    (∀ m es rest i steps, canonFields i rest = true → (∀ j, i < j → lookup es j = lookup (pyFields rest) j) →
      (∀ j n, (j, TVal.i32 n) ∈ rest → isI32 m j = true) → (∀ j n, (j, TVal.i64 n) ∈ rest → isI32 m j = false) →
      i + 1 + steps = PqV.Gen.Specs.loopHi → steps + 1 + needFields rest ≤ fuel →
      specFields fuel m es steps (i + 1) = some rest) ∧
    (∀ fs, canonFields 0 fs = true → 15 + needFields fs ≤ fuel → specThrift fuel (markerOf fs) (pyFields fs) = some fs) ∧
    (∀ ety items, canon (.list ety items) = true → 2 + needItems items ≤ fuel →
      specList fuel (pyItems items) = some (.list ety items)) := by
  intro fuel
  induction fuel with
  | zero =>
    refine ⟨?_, ?_, ?_, ?_⟩
    · intro ety items _ h; cases items <;> simp [needItems] at h
    · intro m es rest i steps _ _ _ _ _ h; omega
    · intro fs _ h; omega
    · intro ety items _ h; omega
  | succ f ih =>
    obtain ⟨ihI, ihF, ihT, ihL⟩ := ih
    refine ⟨?_, ?_, ?_, ?_⟩
    · intro ety items hok hf
      cases items with
      | nil => rfl
      | cons v vs =>
        have hs1 : need v ≤ f := by simp only [needItems] at hf; omega
        have hs2 : needItems vs ≤ f := by simp only [needItems] at hf; omega
        obtain ⟨⟨n, rfl, rfl, hn⟩ | ⟨bs, rfl, rfl, hn⟩ | ⟨fs, rfl, rfl, hfs⟩, hvs⟩ := canonItems_cons hok
        · have ih := ihI 5 vs hvs hs2
          rw [show kindOfTy 5 = 0 from rfl] at ih ⊢
          simp only [pyItems, specListItems_cons, specItem, hn, if_true, ih]
        · have ih := ihI 8 vs hvs hs2
          rw [show kindOfTy 8 = 1 from rfl] at ih ⊢
          simp only [pyItems, specListItems_cons, specItem, hn, if_true, ih]
        · have ih := ihI 12 vs hvs hs2
          simp only [need] at hs1
          rw [show kindOfTy 12 = 2 from rfl] at ih ⊢
          simp only [pyItems, pyOf_struct, specListItems_cons, specItem, ihT fs hfs (by omega), Option.map_some, ih]
    · intro m es rest i steps hrest hlook h32 h64 hsum hf
      cases steps with
      | zero =>
        cases rest with
        | nil => rfl
        | cons q r => have := (canonFields_cons.mp hrest).1; omega
      | succ s =>
        have hl := hlook (i + 1) (Nat.lt_succ_self i)
        by_cases hnext : canonFields (i + 1) rest = true
        · -- field `i + 1` is absent
          rw [lookup_pyFields_lt rest (i + 1) (i + 1) hnext (Nat.le_refl _)] at hl
          rw [specFields_absent (Or.inl hl)]
          exact ihF m es rest (i + 1) s hnext (fun j hj => hlook j (by omega)) h32 h64 (by omega) (by omega)
        · -- field `i + 1` is the head of `rest`
          cases rest with
          | nil => exact absurd rfl hnext
          | cons q r =>
            obtain ⟨id, v⟩ := q
            obtain ⟨⟨hlt, hhi⟩, hv, hr⟩ := canonFields_cons.mp hrest
            obtain rfl : id = i + 1 := by
              by_contra hne
              exact hnext (canonFields_cons.mpr ⟨⟨by omega, hhi⟩, hv, hr⟩)
            rw [pyFields, lookup_cons, if_pos rfl] at hl
            simp only [needFields] at hf
            rw [specFields_present hl (pyOf_ne_none v),
              specVal_py ihL ihT hv (by omega) (fun n e => h32 _ n (e ▸ List.mem_cons_self))
                (fun n e => h64 _ n (e ▸ List.mem_cons_self)),
              ihF m es r (i + 1) s hr
                (fun j hj => by rw [hlook j (by omega), pyFields, lookup_cons, if_neg (by omega)])
                (fun j n h => h32 j n (List.mem_cons_of_mem _ h)) (fun j n h => h64 j n (List.mem_cons_of_mem _ h))
                (by omega) (by omega)]
    · intro fs hc hf
      simp only [specThrift]
      exact ihF (markerOf fs) (pyFields fs) fs 0 13 hc (fun _ _ => rfl) (marker_i32 fs) (marker_i64 fs 0 hc)
        (by decide) (by omega)
    · intro ety items hc hf
      obtain ⟨_, hne, hlen, hitems⟩ := canon_list hc
      have hI := ihI ety items hitems (by omega)
      rw [← pyItems_length] at hlen
      cases items with
      | nil => exact absurd rfl hne
      | cons a t =>
        -- the kind `specList` takes from the first item is the one of the element type
        obtain ⟨⟨_, rfl, rfl, _⟩ | ⟨_, rfl, rfl, _⟩ | ⟨_, rfl, rfl, _⟩, _⟩ := canonItems_cons hitems <;>
          (rw [pyItems] at hI hlen ⊢; rw [specList_eq, if_pos hlen]; exact congrArg (Option.map _) hI)

theorem specItems_py (ety : Nat) : ∀ (items : List TVal), canonItems ety items = true → ∀ (fuel : Nat), needItems items ≤ fuel →
      specListItems fuel (kindOfTy ety) (pyItems items) = some items :=
  fun items h fuel hf => (spec_py_all fuel).1 ety items h hf

/-- **nothing of the IDL-level reading is lost by write + read**: the structure `from_buffer` returns
    for the bytes of `to_bytes x` has the same IDL-level reading as `x` -/
theorem roundtrip_same_reading (m : Marker) (es : List (Nat × PyT)) (fs : List (Nat × TVal)) (tail : List Nat)
    (h : specThrift ((PyT.dict m es).weight + 2) m es = some fs) :
    ∃ out m' es', toBytes (.dict m es) = some out ∧ fromBuffer (out ++ tail) = some (.dict m' es', tail) ∧
      ∀ fuel, 15 + needFields fs ≤ fuel → specThrift fuel m' es' = some fs := by
  obtain ⟨hw, hc⟩ := toBytes_spec h
  exact ⟨_, _, _, hw, pyOf_struct fs ▸ fromBuffer_enc hc tail, fun fuel => (spec_py_all fuel).2.2.1 fs hc⟩

end PqV.Impl.ThriftSer
