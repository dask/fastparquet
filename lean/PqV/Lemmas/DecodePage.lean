import PqV.Spec.File
import PqV.Lemmas.Page
/-!
  The validator's page step `Spec.decodePage` through equations instead of its text: a dictionary
  page is a PLAIN decode (`decodePage_dict_ok`); a data page is a levels step `pageLevels`, which alone depends on the
  page version, followed by `decodeValues` (`decodePage_data_ok`).  Both are stated as "accepted with `acc'` iff …", so
  the same two lemmas say what an accepted page must satisfy (Props.C02 `accepted_pages_*`) and show that a given
  page is accepted (Lemmas.WritePage).
-/
namespace PqV.Spec

def levelsV2 (maxLevel n : Nat) (bs : List Nat) : List Nat :=
  if maxLevel = 0 then List.replicate n 0 else decodeHybrid (widthFor maxLevel) n bs

def levelsLooseV2 (maxLevel n : Nat) (bs : List Nat) : Nat :=
  if maxLevel = 0 ∨ hybridTight (widthFor maxLevel) n bs then 0 else 1

@[simp] theorem levelsV1_zero (n : Nat) (bs : List Nat) : levelsV1 0 n bs = some (List.replicate n 0, bs) := rfl
@[simp] theorem levelsLooseV1_zero (n : Nat) (bs : List Nat) : levelsLooseV1 0 n bs = 0 := rfl
@[simp] theorem levelsV2_zero (n : Nat) (bs : List Nat) : levelsV2 0 n bs = List.replicate n 0 := rfl
@[simp] theorem levelsLooseV2_zero (n : Nat) (bs : List Nat) : levelsLooseV2 0 n bs = 0 := if_pos (.inl rfl)

/-- the level sections of a data page: repetition levels, definition levels, the bytes of the value section, and for
    either level stream 1 if it is loosely framed -/
structure PageLevels where
  rl : List Nat
  dl : List Nat
  vb : List Nat
  looseR : Nat
  looseD : Nat

/-- what `decodePage` does with a data page before it turns to the values (`none`: it refuses the page) -/
def pageLevels (leaf : Leaf) (p : PageInfo) (body : List Nat) : Option PageLevels :=
  if p.ptypeTag = 0 then
    match levelsV1 leaf.maxRep p.numValues body with
    | none => none
    | some (rl, r1) =>
      match levelsV1 leaf.maxDef p.numValues r1 with
      | none => none
      | some (dl, r2) => some ⟨rl, dl, r2, levelsLooseV1 leaf.maxRep p.numValues body, levelsLooseV1 leaf.maxDef p.numValues r1⟩
  else
    let rb := body.take p.repLen
    let db := (body.drop p.repLen).take p.defLen
    let rl := levelsV2 leaf.maxRep p.numValues rb
    let dl := levelsV2 leaf.maxDef p.numValues db
    if dl.length ≠ p.numValues ∨ rl.length ≠ p.numValues then none else
    if leaf.maxRep > 0 ∧ p.numValues > 0 ∧ rl.head? ≠ some 0 then none else
    if p.numRows ≠ some (if leaf.maxRep = 0 then p.numValues else countMax 0 rl) then none else
    if p.numNulls ≠ some (p.numValues - countMax leaf.maxDef dl) then none else
    some ⟨rl, dl, body.drop (p.repLen + p.defLen), levelsLooseV2 leaf.maxRep p.numValues rb, levelsLooseV2 leaf.maxDef p.numValues db⟩

def PageAcc.add (acc : PageAcc) (n : Nat) (s : PageLevels) (vs : List Cell) (looseV : Nat) : PageAcc :=
  { acc with defs := acc.defs ++ s.dl, reps := acc.reps ++ s.rl, vals := acc.vals ++ vs, count := acc.count + n,
             loose := acc.loose + s.looseR + s.looseD + looseV }

/-- one refusal: a check that makes `decodePage` stop with a message makes `pageLevels` answer `none` -/
theorem refuse_iff {c : Prop} [Decidable c] {ε α σ : Type} {e : ε} {x : Except ε α} {a : α} {y : Option σ} {P : σ → Prop}
    (h : ¬ c → (x = .ok a ↔ ∃ s, y = some s ∧ P s)) :
    (if c then .error e else x) = .ok a ↔ ∃ s, (if c then none else y) = some s ∧ P s := by
  by_cases hc : c
  · rw [if_pos hc, if_pos hc]; exact ⟨nofun, fun ⟨_, h, _⟩ => nomatch h⟩
  · rw [if_neg hc, if_neg hc]; exact h hc

variable {leaf : Leaf} {acc acc' : PageAcc} {p : PageInfo} {body : List Nat}

theorem decodePage_dict_ok (h2 : p.ptypeTag = 2) :
    decodePage leaf acc p body = .ok acc' ↔ body.length = p.uncompSize ∧
      ∃ d, plainDecode leaf.ptype leaf.typeLength p.numValues body = some d ∧ acc' = { acc with dict := some d } := by
  unfold decodePage
  by_cases hb : body.length = p.uncompSize
  · rw [if_neg (not_not_intro hb), if_pos h2, and_iff_right hb]
    split
    · rename_i d hd
      exact ⟨fun h => ⟨d, hd, (Except.ok.inj h).symm⟩, fun ⟨_, h, e⟩ => by cases hd.symm.trans h; rw [e]⟩
    · rename_i hd
      exact ⟨nofun, fun ⟨_, h, _⟩ => nomatch hd.symm.trans h⟩
  · rw [if_pos hb]
    exact ⟨nofun, fun h => absurd h.1 hb⟩

theorem decodePage_data_ok (h2 : p.ptypeTag ≠ 2) :
    decodePage leaf acc p body = .ok acc' ↔ body.length = p.uncompSize ∧
      ∃ s, pageLevels leaf p body = some s ∧
        ∃ vs, decodeValues leaf.ptype leaf.typeLength p.encoding acc.dict (countMax leaf.maxDef s.dl) s.vb = some vs ∧
        acc' = acc.add p.numValues s vs (valuesLoose leaf.ptype p.encoding (countMax leaf.maxDef s.dl) s.vb) := by
  unfold decodePage pageLevels
  by_cases hb : body.length = p.uncompSize
  · rw [if_neg (not_not_intro hb), if_neg h2, and_iff_right hb]
    -- both sides are walked in step down to the values, where the sections `s` are known
    by_cases h0 : p.ptypeTag = 0
    -- data page v1: either level stream may fail to decode
    case' pos =>
      rw [if_pos h0, if_pos h0]
      rcases levelsV1 leaf.maxRep p.numValues body with _ | ⟨rl, r1⟩
      · exact ⟨nofun, fun ⟨_, h, _⟩ => nomatch h⟩
      dsimp only
      rcases levelsV1 leaf.maxDef p.numValues r1 with _ | ⟨dl, r2⟩
      · exact ⟨nofun, fun ⟨_, h, _⟩ => nomatch h⟩
      dsimp only
    -- data page v2: the four checks on the level sections, one `refuse_iff` each
    case' neg =>
      rw [if_neg h0, if_neg h0]
      unfold levelsV2 levelsLooseV2
      extract_lets rb db vb rl dl
      iterate 4 refine refuse_iff fun _ => ?_
    all_goals
      simp only [Option.some.injEq, exists_eq_left']
      split
      · rename_i hv
        exact ⟨nofun, fun ⟨_, h, _⟩ => nomatch hv.symm.trans h⟩
      · rename_i vs hv
        exact ⟨fun h => ⟨vs, hv, (Except.ok.inj h).symm⟩, fun ⟨_, h, e⟩ => by cases hv.symm.trans h; exact congrArg _ e.symm⟩
  · rw [if_pos hb]
    exact ⟨nofun, fun h => absurd h.1 hb⟩

theorem RunStream.levelsV1 {m w : Nat} {xs bs : List Nat} (hm : m ≠ 0) (hw : widthFor m = w) (h : RunStream w xs bs)
    (hlen : bs.length < 2 ^ 32) (tail : List Nat) :
    Spec.levelsV1 m xs.length (leBytes 4 bs.length ++ bs ++ tail) = some (xs, tail) ∧
    levelsLooseV1 m xs.length (leBytes 4 bs.length ++ bs ++ tail) = 0 := by
  subst hw
  have hval : leNat (leBytes 4 bs.length) = bs.length := leNat_leBytes_lt_two_pow hlen
  have hd := h.decode []
  have ht := h.tight []
  rw [List.append_nil] at hd ht
  have h1 : ¬ (leBytes 4 bs.length ++ (bs ++ tail)).length < 4 := by simp [leBytes_length]
  have h2 : ¬ (bs ++ tail).length < bs.length := by simp
  simp only [Spec.levelsV1, levelsLooseV1, hm, if_false, List.append_assoc, h1, take_leBytes_append, drop_leBytes_append, hval,
    h2, List.take_left' rfl, List.drop_left' rfl, hd, ht, ne_eq, not_true_eq_false, if_true, and_self]

theorem levelsV1_length {m n : Nat} {bs lv rest : List Nat} (h : levelsV1 m n bs = some (lv, rest)) : lv.length = n := by
  unfold levelsV1 at h
  split at h
  · cases h; exact List.length_replicate
  · simp only [Option.ite_none_left_eq_some, Option.some.injEq, Prod.mk.injEq] at h
    obtain ⟨_, _, hl, rfl, _⟩ := h
    exact not_not.mp hl

theorem pageLevels_length {s : PageLevels} (h : pageLevels leaf p body = some s) :
    s.rl.length = p.numValues ∧ s.dl.length = p.numValues := by
  unfold pageLevels at h
  by_cases h0 : p.ptypeTag = 0
  · rw [if_pos h0] at h
    cases hr : levelsV1 leaf.maxRep p.numValues body with
    | none => rw [hr] at h; cases h
    | some x =>
      rw [hr] at h
      dsimp only at h
      cases hd : levelsV1 leaf.maxDef p.numValues x.2 with
      | none => rw [hd] at h; cases h
      | some y => rw [hd] at h; cases h; exact ⟨levelsV1_length hr, levelsV1_length hd⟩
  · simp only [if_neg h0, Option.ite_none_left_eq_some, Option.some.injEq] at h
    obtain ⟨hl, _, _, _, rfl⟩ := h
    exact ⟨not_not.mp fun h => hl (.inr h), not_not.mp fun h => hl (.inl h)⟩

theorem decodePage_levels (h : decodePage leaf acc p body = .ok acc') :
    acc'.count = acc.count + (if p.ptypeTag = 2 then 0 else p.numValues) ∧
    acc'.defs.length = acc.defs.length + (if p.ptypeTag = 2 then 0 else p.numValues) ∧
    acc'.reps.length = acc.reps.length + (if p.ptypeTag = 2 then 0 else p.numValues) := by
  by_cases h2 : p.ptypeTag = 2
  · obtain ⟨_, d, _, rfl⟩ := (decodePage_dict_ok h2).mp h
    rw [if_pos h2]; exact ⟨rfl, rfl, rfl⟩
  · obtain ⟨_, s, hs, vs, _, rfl⟩ := (decodePage_data_ok h2).mp h
    obtain ⟨hr, hd⟩ := pageLevels_length hs
    rw [if_neg h2]
    exact ⟨rfl, by rw [← hd]; exact List.length_append, by rw [← hr]; exact List.length_append⟩

theorem decodePages_cons_ok {rest : List (PageInfo × List Nat)} :
    decodePages leaf acc ((p, body) :: rest) = .ok acc' ↔
      ∃ a, decodePage leaf acc p body = .ok a ∧ decodePages leaf a rest = .ok acc' := by
  rw [decodePages]
  cases decodePage leaf acc p body with
  | error e => exact ⟨nofun, fun ⟨_, h, _⟩ => nomatch h⟩
  | ok a => exact ⟨fun h => ⟨a, rfl, h⟩, fun ⟨_, h, h'⟩ => by cases h; exact h'⟩

theorem decodePages_levels : ∀ {pages : List (PageInfo × List Nat)} {acc acc' : PageAcc},
    decodePages leaf acc pages = .ok acc' →
    let n := ((pages.filter (fun x => x.1.ptypeTag != 2)).map (fun x => x.1.numValues)).sum
    acc'.count = acc.count + n ∧ acc'.defs.length = acc.defs.length + n ∧ acc'.reps.length = acc.reps.length + n
  | [], acc, acc', h => by cases h; exact ⟨rfl, rfl, rfl⟩
  | (p, body) :: rest, acc, acc', h => by
    obtain ⟨a, hp, hr⟩ := decodePages_cons_ok.mp h
    obtain ⟨c1, d1, r1⟩ := decodePage_levels hp
    obtain ⟨c2, d2, r2⟩ := decodePages_levels hr
    have hn : ((((p, body) :: rest).filter (fun x => x.1.ptypeTag != 2)).map (fun x => x.1.numValues)).sum
        = (if p.ptypeTag = 2 then 0 else p.numValues)
          + ((rest.filter (fun x => x.1.ptypeTag != 2)).map (fun x => x.1.numValues)).sum := by
      by_cases h2 : p.ptypeTag = 2 <;> simp [h2]
    dsimp only
    rw [hn, c2, d2, r2, c1, d1, r1]
    exact ⟨Nat.add_assoc _ _ _, Nat.add_assoc _ _ _, Nat.add_assoc _ _ _⟩

end PqV.Spec
