/-
  Lemmas.Rejected — a multi-file append that fails anywhere in its data phase is invisible to everything that follows:
  it only creates or tears part files whose numbers no row group of `_metadata` carries, and the next operation, planned
  from the unchanged `_metadata`, re-creates ('wb') every file it is going to reference.
-/
import PqV.Lemmas.Dataset
namespace PqV.Impl.Dataset

theorem applyOp_get_target (fs fs' : FS) (op : FsOp) (q : Path) (h : target op = some q) :
    (applyOp fs op).get q = (applyOp fs' op).get q := by
  cases op with
  | mkdir d => cases h
  | close p => cases h
  | openW p => cases h; simp [applyOp, get_put_eq]
  | write p c => cases h; simp [applyOp, get_put_eq]

theorem runOps_get_congr {ops : List FsOp} {q : Path} {fs fs' : FS}
    (h : (∃ op ∈ ops, target op = some q) ∨ fs.get q = fs'.get q) : (runOps fs ops).get q = (runOps fs' ops).get q := by
  induction ops generalizing fs fs' with
  | nil => exact h.resolve_left fun ⟨_, hop, _⟩ => nomatch hop
  | cons op rest ih =>
    refine ih (fs := applyOp fs op) (fs' := applyOp fs' op) ?_
    by_cases t : target op = some q
    · exact Or.inr (applyOp_get_target fs fs' op q t)
    · rcases h with ⟨o, ho, hto⟩ | h
      · rcases List.mem_cons.mp ho with rfl | ho'
        · exact absurd hto t
        · exact Or.inl ⟨o, ho', hto⟩
      · exact Or.inr (by rw [applyOp_get t, applyOp_get t]; exact h)

theorem appendOps_pmeta (partitioned : Bool) (fs : FS) (old : List RgRef) (nd : NewData) :
    (runOps fs (appendOps partitioned old nd)).get .pmeta = some (.refs (old ++ newRefs (maxPart old) 0 nd)) := by
  rw [appendOps, runOps_append]
  exact metaOps_pmeta _ _

theorem append_agree (partitioned : Bool) (fs fs' : FS) (old : List RgRef) (nd : NewData) (h : Agree fs fs')
    (hm : fs.get .pmeta = some (.refs old)) :
    Agree (runOps fs (appendOps partitioned old nd)) (runOps fs' (appendOps partitioned old nd)) := by
  refine ⟨by rw [appendOps_pmeta, appendOps_pmeta], ?_⟩
  intro refs hrefs r hr
  rw [appendOps_pmeta] at hrefs
  cases hrefs
  rcases List.mem_append.mp hr with hold | hnew
  · -- an old row group: its file is not touched by the append, and the two agreed on it
    have hnt := fun op hop => appendOps_untouched partitioned old nd op hop r hold
    rw [runOps_get hnt, runOps_get hnt]
    exact h.2 old hm r hold
  · -- a new row group: its file is written by this very append
    obtain ⟨op, hop, ht⟩ := newRefs_written partitioned hnew
    exact runOps_get_congr (Or.inl ⟨op, List.mem_append_left _ hop, ht⟩)

/-- one attempted append: planned from the `_metadata` it finds; completes, or fails after `k` data operations -/
structure Attempt where
  nd : NewData
  fail : Option Nat
  deriving Repr

def attempt (partitioned : Bool) (fs : FS) (a : Attempt) : FS :=
  match fs.get .pmeta with
  | some (.refs old) =>
    match a.fail with
    | none => runOps fs (appendOps partitioned old a.nd)
    | some k => runOps fs ((dataOps partitioned (maxPart old) 0 a.nd).take k)
  | _ => fs

theorem attempt_agree (partitioned : Bool) (fs fs' : FS) (a : Attempt) (h : Agree fs fs') :
    Agree (attempt partitioned fs a) (if a.fail.isNone then attempt partitioned fs' a else fs') := by
  unfold attempt
  rw [← h.1]
  cases hm : fs.get .pmeta with
  | none => cases a.fail <;> exact h
  | some c =>
    cases c with
    | data rows => cases a.fail <;> exact h
    | torn => cases a.fail <;> exact h
    | refs old =>
      cases a.fail with
      | none => exact append_agree partitioned fs fs' old a.nd h hm
      | some k => exact h.avoids hm ((dataOps_avoids partitioned old a.nd).take k)

theorem attempts_agree {partitioned : Bool} {as : List Attempt} {fs fs' : FS} (h : Agree fs fs') :
    Agree (as.foldl (attempt partitioned) fs) ((as.filter (·.fail.isNone)).foldl (attempt partitioned) fs') := by
  induction as generalizing fs fs' with
  | nil => exact h
  | cons a rest ih =>
    have := ih (attempt_agree partitioned fs fs' a h)
    simp only [List.foldl_cons, List.filter_cons]
    split
    · next hf => rw [List.foldl_cons]; rwa [if_pos hf] at this
    · next hf => rwa [if_neg hf] at this

end PqV.Impl.Dataset
