import PqV.Spec.File
namespace PqV.Spec

/-- consecutive pages: each starts where the previous one's payload ends -/
def Tiles : Nat → Nat → List PageInfo → Prop
  | start, stop, [] => start = stop
  | start, stop, p :: ps => p.hdrOff = start ∧ Tiles (p.dataOff + p.compSize) stop ps

theorem parsePage_hdrOff {file : Array Nat} {off : Nat} {p : PageInfo} (h : parsePage file off = .ok p) : p.hdrOff = off := by
  unfold parsePage at h
  dsimp only at h
  split at h
  · cases h
  · split at h
    · cases h
    · split at h
      · cases h; rfl
      · cases h

theorem chunkPages_acc (file : Array Nat) : ∀ (fuel pos stop : Nat) (acc ps : List PageInfo),
    chunkPages file fuel pos stop acc = .ok ps → ∃ tail, ps = acc.reverse ++ tail ∧ Tiles pos stop tail ∧
      ∀ p ∈ tail, parsePage file p.hdrOff = .ok p
  | 0, _, _, _, _, h => nomatch h
  | f + 1, pos, stop, acc, ps, h => by
    rw [chunkPages] at h
    by_cases h1 : pos = stop
    · rw [if_pos h1] at h
      cases h
      exact ⟨[], (List.append_nil _).symm, h1, nofun⟩
    · rw [if_neg h1] at h
      by_cases h2 : pos > stop
      · rw [if_pos h2] at h; cases h
      · rw [if_neg h2] at h
        cases hp : parsePage file pos with
        | error e => rw [hp] at h; cases h
        | ok p =>
          rw [hp] at h
          obtain ⟨tail, rfl, ht, hall⟩ := chunkPages_acc file f _ _ _ _ h
          have hoff := parsePage_hdrOff hp
          refine ⟨p :: tail, by simp, ⟨hoff, ht⟩, fun q hq => ?_⟩
          rcases List.mem_cons.mp hq with rfl | hq'
          · rw [hoff]; exact hp
          · exact hall q hq'

theorem encodingsProblem_none_iff {encs : List Nat} {st : List (Nat × Nat × Nat)} {pages : List (Nat × Nat)} :
    encodingsProblem encs (some st) pages = none ↔
      (∀ p ∈ pages, p.2 ∈ encs) ∧ (∀ e ∈ st, (pages.filter (· == (e.1, e.2.1))).length = e.2.2) ∧
      (∀ p ∈ pages, ∃ e ∈ st, e.1 = p.1 ∧ e.2.1 = p.2) := by
  unfold encodingsProblem
  split
  · next p h1 =>
    have hp := List.find?_some h1
    exact ⟨nofun, fun h => by simp [h.1 p (List.mem_of_find?_eq_some h1)] at hp⟩
  · next h1 =>
    rw [List.find?_eq_none] at h1
    have hA : ∀ p ∈ pages, p.2 ∈ encs := fun p hp => by simpa using h1 p hp
    dsimp only
    split
    · next e h2 =>
      have he := List.find?_some h2
      exact ⟨nofun, fun h => by simp [h.2.1 e (List.mem_of_find?_eq_some h2)] at he⟩
    · next h2 =>
      rw [List.find?_eq_none] at h2
      have hB : ∀ e ∈ st, (pages.filter (· == (e.1, e.2.1))).length = e.2.2 := fun e he => by simpa using h2 e he
      split
      · next p h3 =>
        have hp := List.find?_some h3
        refine ⟨nofun, fun h => ?_⟩
        obtain ⟨e, he, h1, h2⟩ := h.2.2 p (List.mem_of_find?_eq_some h3)
        simp only [Bool.not_eq_true', List.any_eq_false, Bool.and_eq_true, beq_iff_eq] at hp
        exact (hp e he ⟨h1, h2⟩).elim
      · next h3 =>
        rw [List.find?_eq_none] at h3
        refine ⟨fun _ => ⟨hA, hB, fun p hp => ?_⟩, fun _ => rfl⟩
        simpa using h3 p hp

end PqV.Spec
