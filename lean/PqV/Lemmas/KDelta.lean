import PqV.Lemmas.KBitpacked
/-! `delta_read_bitpacked`: the bit reader of `KBitpacked` with a `uint64` accumulator, `int8` counters, and a byte loaded
before a used one is shifted out. -/
namespace PqV.Impl
open PqV.Spec

/-- the mask `0xffffffffffffffff >> (64 - w)`: bit `i` is set iff `i < w` -/
theorem mask64 (w : Nat) (h : w ≤ 64) : (2 ^ 64 - 1) >>> (64 - w) = 2 ^ w - 1 := by
  apply Nat.eq_of_testBit_eq
  intro i
  rw [Nat.testBit_shiftRight, Nat.testBit_two_pow_sub_one, Nat.testBit_two_pow_sub_one, decide_eq_decide]
  omega

def dbpAt (S loc0 w n B j r k : Nat) : DBP :=
  { loc := loc0 + (B + j), data := window S (8 * B) (8 * j), left := ((8 * j : Nat) : Int), right := (r : Int),
    count := n - k, vals := unpackNat w k S }

/-- `w ≤ 28`: here loading comes first, so a byte is loaded while `r` is still up to `8 + w`, on top of at most
    `r + w - 1 ≤ 2·w + 7 < 64` bits. -/
theorem dbpStep_at (buf : List Nat) (S loc0 w n Lf B j r k : Nat) (hw : w ≤ 28) (hLf : n * w ≤ 8 * Lf)
    (hS : ∀ i, i < Lf → rd buf (loc0 + i) = .ok (window S (8 * i) 8))
    (c : Cursor 64 w n 0 Lf B j r k) (hk : k < n) :
    ∃ B' j' r' k', dbpStep buf w ((2 ^ 64 - 1) >>> (64 - w)) (dbpAt S loc0 w n B j r k) = .ok (dbpAt S loc0 w n B' j' r' k') ∧
      Cursor 64 w n 0 Lf B' j' r' k' ∧ 2 * B' + j' + k' = 2 * B + j + k + 1 := by
  have h1 := c.pos; have h2 := c.used; have h3 := c.fits; have h4 := c.ahead
  have hnw : (k + 1) * w ≤ n * w := Nat.mul_le_mul_right w hk
  rw [Nat.add_one_mul k w] at hnw
  unfold dbpStep
  simp only [dbpAt]
  by_cases hA : ((8 * j : Nat) : Int) - (r : Nat) < w
  · -- fewer than `w` bits ahead: load a byte; one is left, since value `k` ends within the `Lf` bytes (`hnw`, `hLf`)
    simp only [hA, if_true]
    have hL : B + j < Lf := by omega
    have hW : 8 * j + 8 ≤ 64 := by omega
    refine ⟨B, j + 1, r, k, ?_, c.load hW hL, by omega⟩
    have hnf : ¬ (((8 * j : Nat) : Int) < 0 ∨ ((8 * j : Nat) : Int) ≥ 64) := by omega
    simp only [hnf, if_false, hS _ hL, bind, Except.bind, Int.toNat_natCast, Except.ok.injEq, DBP.mk.injEq, and_true]
    refine ⟨by omega, ?_, wrapS_of_eq 8 _ _ (by decide) (by omega) (by omega)⟩
    rw [Nat.mul_add]
    exact window_load S _ _ 64 hW
  · simp only [hA, if_false]
    by_cases hB : ((r : Nat) : Int) > 8
    · -- a whole used byte at the bottom: shift it out
      simp only [hB, if_true]
      obtain ⟨j, rfl⟩ : ∃ j', j = j' + 1 := ⟨j - 1, by omega⟩
      obtain ⟨r, rfl⟩ : ∃ r', r = r' + 8 := ⟨r - 8, by omega⟩
      refine ⟨B + 1, j, r, k, ?_, c.drop, by omega⟩
      simp only [Except.ok.injEq, DBP.mk.injEq, and_true]
      refine ⟨by omega, ?_, wrapS_of_eq 8 _ _ (by decide) (by omega) (by omega), wrapS_of_eq 8 _ _ (by decide) (by omega) (by omega)⟩
      exact window_div S (8 * B) (8 * (j + 1)) 8 (by omega)
    · -- take the next value
      simp only [hB, if_false]
      have hj : r + w ≤ 8 * j := by omega
      have hr : ¬ (((r : Nat) : Int) < 0 ∨ ((r : Nat) : Int) ≥ 64) := by omega
      simp only [hr, if_false]
      refine ⟨B, j, r + w, k + 1, ?_, c.take (by omega) hj hk, by omega⟩
      simp only [Int.toNat_natCast, Except.ok.injEq, DBP.mk.injEq, true_and, unpackNat]
      refine ⟨wrapS_of_eq 8 _ _ (by decide) (by omega) (by omega), by omega, ?_⟩
      rw [mask64 w (by omega), shiftRight_and_mask, window_window _ _ _ _ _ hj, h1, List.range_succ, List.map_append]
      rfl

theorem deltaReadBitpacked_stream (buf : List Nat) (S loc0 w n : Nat) (hw1 : 1 ≤ w) (hw : w ≤ 28)
    (hS : ∀ i, i < (n * w + 7) / 8 → rd buf (loc0 + i) = .ok (window S (8 * i) 8)) :
    deltaReadBitpacked buf loc0 w n = .ok (unpackNat w n S, loc0 + (n * w + 7) / 8) := by
  obtain ⟨B', j', r', hl, c'⟩ := loop_cursor (dbpAt S loc0 w n) DBP.count
    (dbpStep buf w ((2 ^ 64 - 1) >>> (64 - w))) (dbpLoop buf w ((2 ^ 64 - 1) >>> (64 - w))) (fun _ _ _ _ => rfl)
    (fun f s h => by cases f <;> simp only [dbpLoop, h, if_true]) (fun f s h => by simp only [dbpLoop, h, if_false])
    (fun B j r k c hk => dbpStep_at buf _ loc0 w n ((n * w + 7) / 8) B j r k hw (by omega) hS c hk)
    (n * 24 + 16) 0 0 0 0 ⟨by omega, by omega, by omega, by omega, by omega, by omega, by omega⟩
    (by have := Nat.mul_le_mul_left n hw; omega)
  have h0 : ¬ (w = 0 ∨ w > 64) := by omega
  have hs0 : ({ loc := loc0, data := 0, left := 0, right := 0, count := n, vals := [] } : DBP) = dbpAt S loc0 w n 0 0 0 0 := by
    simp [dbpAt, window, Nat.mod_one, unpackNat]
  simp only [deltaReadBitpacked, h0, if_false, hs0, hl, bind, Except.bind]
  have : B' + j' = (n * w + 7) / 8 := by obtain ⟨h1, h2, h3, h4, h5, h6, h7⟩ := c'; omega
  simp only [dbpAt, this]

theorem deltaReadBitpacked_at (buf : List Nat) (loc w : Nat) (vs : List Nat) (hw1 : 1 ≤ w) (hw : w ≤ 28)
    (hv : ∀ v ∈ vs, v < 2 ^ w) (h : At buf loc (packLE w vs)) :
    deltaReadBitpacked buf loc w vs.length = .ok (vs, loc + (packLE w vs).length) := by
  rw [deltaReadBitpacked_stream buf (leNat (packLE w vs)) loc w vs.length hw1 hw
    fun i hi => h.rd_window (leBytes_lt _ _) i (by rw [packLE_length]; exact hi), packLE_length]
  exact congrArg (fun l => Except.ok (l, _)) (unpackLE_packLE w vs hv)

end PqV.Impl
