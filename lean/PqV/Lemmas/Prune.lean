import PqV.Impl.Prune
import PqV.Lemmas.Filter
/-!
Soundness of the pruning loop.  Every loop of `Impl.Prune` is `if test: return True` steps, i.e. `pyOr` unfolded, and a test may
raise; so each loop is characterised by what it cannot answer when no test excludes the row (`≠ .ok true`, via `Py.pyOr_ne_true`),
which covers the raising runs as well.
-/
namespace PqV.Impl.Prune
open PqV.Py PqV.Gen.Filter PqV.Filter

/-- a row: column id ↦ cell (`none` = null) -/
abbrev Row := Nat → Option Int

def satCond (row : Row) (f : Cond) : Bool :=
  match row f.col with
  | some x => sat f.op f.val f.vals x
  | none => false

def satGroup (row : Row) (g : List Cond) : Bool := g.all (satCond row)
def satDnf (row : Row) (dnf : List (List Cond)) : Bool := dnf.any (satGroup row)

/-- the row is one of the row group's rows: the recorded statistics and partition values are right for it -/
structure RowIn (rg : RowGroup) (row : Row) : Prop where
  rows_pos : rg.numRows ≠ 0
  chunk_ok : ∀ c ∈ rg.chunks, ∀ s, c.stats = some s →
      (s.nullCount = some c.numValues → row c.col = none) ∧
      (∀ x, row c.col = some x → inBounds (pyOrOpt s.min s.minValue) (pyOrOpt s.max s.maxValue) x)
  part_ok : ∀ p ∈ rg.parts, row p.1 = some p.2

def OpsOk (g : List Cond) : Prop := ∀ f ∈ g, f.op ∈ ["==", "=", "!=", "<", "<=", ">", ">=", "in"]

abbrev SatBy (row : Row) (fs : List Cond) : Prop :=
  ∀ f ∈ fs, f.op ∈ ["==", "=", "!=", "<", "<=", ">", ">=", "in"] ∧ satCond row f = true

/-- what `RowIn.chunk_ok` says of one chunk -/
abbrev ChunkOk (row : Row) (c : Chunk) : Prop :=
  ∀ s, c.stats = some s → (s.nullCount = some c.numValues → row c.col = none) ∧
    (∀ x, row c.col = some x → inBounds (pyOrOpt s.min s.minValue) (pyOrOpt s.max s.maxValue) x)

theorem filter_val_ne_true {row : Row} {f : Cond}
    (h : f.op ∈ ["==", "=", "!=", "<", "<=", ">", ">=", "in"] ∧ satCond row f = true) {vmin vmax : Option Int}
    (hb : ∀ x, row f.col = some x → inBounds vmin vmax x) :
    filter_val f.op f.val f.vals vmin vmax ≠ .ok true := by
  intro hv
  obtain ⟨hop, hsat⟩ := h
  unfold satCond at hsat
  cases hrow : row f.col with
  | none => simp [hrow] at hsat
  | some x =>
    rw [hrow] at hsat
    exact Bool.false_ne_true ((filter_val_sound f.op f.val f.vals vmin vmax x hop hv (hb x hrow)).symm.trans hsat)

theorem chunkOut_ne_true {row : Row} {c : Chunk} (hc : ChunkOk row c) {fs : List Cond} (h : SatBy row fs) :
    chunkOut c fs ≠ .ok true := by
  induction fs with
  | nil => simp [chunkOut]
  | cons f fs ih =>
    obtain ⟨hf, ht⟩ := List.forall_mem_cons.mp h
    unfold chunkOut
    split
    · exact ih ht
    · rename_i hcol
      have hcol : f.col = c.col := by simpa using hcol
      split
      · exact ih ht
      · rename_i s hs
        obtain ⟨hnull, hbnd⟩ := hc s hs
        split
        · -- an all-null chunk: the row's cell is null, so it satisfies no condition
          rename_i hn
          simp [satCond, hcol, hnull hn] at hf
        · exact pyOr_ne_true (filter_val_ne_true hf (hcol ▸ hbnd)) (ih ht)

theorem chunksOut_ne_true {row : Row} {chunks : List Chunk} (hc : ∀ c ∈ chunks, ChunkOk row c) {fs : List Cond}
    (h : SatBy row fs) : chunksOut chunks fs ≠ .ok true := by
  induction chunks with
  | nil => simp [chunksOut]
  | cons c cs ih =>
    obtain ⟨hc0, hct⟩ := List.forall_mem_cons.mp hc
    exact pyOr_ne_true (chunkOut_ne_true hc0 h) (ih hct)

theorem partOut_ne_true {row : Row} {cat : Nat} {v : Int} (hp : row cat = some v)
    {fs : List Cond} (h : SatBy row fs) : partOut cat v fs ≠ .ok true := by
  induction fs with
  | nil => simp [partOut]
  | cons f fs ih =>
    obtain ⟨hf, ht⟩ := List.forall_mem_cons.mp h
    unfold partOut
    split
    · exact ih ht
    · rename_i hcol
      have hcol : f.col = cat := by simpa using hcol
      refine pyOr_ne_true (filter_val_ne_true hf ?_) (ih ht)
      intro x hx
      obtain rfl : v = x := by rw [hcol, hp] at hx; exact Option.some.inj hx
      exact ⟨fun m hm => Option.some.inj hm ▸ Int.le_refl _, fun m hm => Option.some.inj hm ▸ Int.le_refl _⟩

theorem partsOut_ne_true {row : Row} {parts : List (Nat × Int)} (hp : ∀ p ∈ parts, row p.1 = some p.2)
    {fs : List Cond} (h : SatBy row fs) : partsOut parts fs ≠ .ok true := by
  induction parts with
  | nil => simp [partsOut]
  | cons p ps ih =>
    obtain ⟨hp0, hpt⟩ := List.forall_mem_cons.mp hp
    exact pyOr_ne_true (partOut_ne_true hp0 h) (ih hpt)

theorem groupKeeps_eq (rg : RowGroup) (fs : List Cond) :
    groupKeeps rg fs = pyNot (pyOr (statsOut rg fs) (catsOut rg fs)) := by
  unfold groupKeeps
  rcases statsOut rg fs with _ | _ | _ <;> rfl

theorem groupKeeps_ne_false {rg : RowGroup} {row : Row} (hin : RowIn rg row) {g : List Cond} (h : SatBy row g) :
    groupKeeps rg g ≠ .ok false := by
  have hs : statsOut rg g ≠ .ok true := by
    unfold statsOut
    rw [if_neg hin.rows_pos]
    split
    · simp
    · exact chunksOut_ne_true hin.chunk_ok h
  have hc : catsOut rg g ≠ .ok true := by
    unfold catsOut
    split
    · simp
    · exact partsOut_ne_true hin.part_ok h
  rw [groupKeeps_eq]
  exact pyNot_ne_false (pyOr_ne_true hs hc)

theorem keeps_ne_false {rg : RowGroup} {row : Row} (hin : RowIn rg row) {dnf : List (List Cond)}
    (hops : ∀ g ∈ dnf, OpsOk g) (hsat : satDnf row dnf = true) : keeps rg dnf ≠ .ok false := by
  induction dnf with
  | nil => simp [satDnf] at hsat
  | cons g gs ih =>
    obtain ⟨hg, hgs⟩ := List.forall_mem_cons.mp hops
    have h1 : satGroup row g = true → groupKeeps rg g ≠ .ok false := fun hs =>
      groupKeeps_ne_false hin fun f hf => ⟨hg f hf, List.all_eq_true.mp hs f hf⟩
    have h2 : satDnf row gs = true → keeps rg gs ≠ .ok false := ih hgs
    rw [satDnf, List.any_cons, Bool.or_eq_true] at hsat
    exact bind_map_or_ne_false (hsat.imp h1 h2)

theorem go_mem {dnf : List (List Cond)} {rgs : List RowGroup} {base : Nat} {idxs : List Nat}
    (h : filterRowGroups.go dnf rgs base = .ok idxs) {j : Nat} {rg : RowGroup} (hj : rgs[j]? = some rg)
    (hkeep : keeps rg dnf ≠ .ok false) : base + j ∈ idxs := by
  induction rgs generalizing base idxs j with
  | nil => simp at hj
  | cons r rest ih =>
    unfold filterRowGroups.go at h
    cases hk : keeps r dnf with
    | error e => simp [hk] at h
    | ok k =>
      cases hg : filterRowGroups.go dnf rest (base + 1) with
      | error e => simp [hk, hg] at h
      | ok t =>
        simp only [hk, hg, ok_bind, map_ok, Except.ok.injEq] at h
        subst h
        cases j with
        | zero =>
          obtain rfl : r = rg := by simpa using hj
          cases k
          · exact absurd hk hkeep
          · simp
        | succ j' =>
          have := ih hg (j := j') (by simpa using hj)
          rw [show base + (j' + 1) = base + 1 + j' by omega]
          split
          · exact List.mem_cons_of_mem _ this
          · exact this

end PqV.Impl.Prune
