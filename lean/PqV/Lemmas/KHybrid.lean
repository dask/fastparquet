import PqV.Lemmas.KBitpacked
import PqV.Lemmas.Hybrid
/-! `read_rle`, `read_bitpacked` and `read_rle_bit_packed_hybrid` on the runs of `Spec.Hybrid`, each read where it sits
in a buffer of bytes. -/
namespace PqV.Impl
open PqV.Spec

theorem rleData_ok (buf : List Nat) (ip : Nat) : ∀ (k i data : Nat), i + k ≤ 4 → ip + i + k ≤ buf.length →
    ∃ d, rleData buf ip k i data = .ok d := by
  intro k
  induction k with
  | zero => intro i data _ _; exact ⟨data, rfl⟩
  | succ k ih =>
    intro i data h4 hlen
    have hs : ¬ (i * 8 ≥ 32) := by omega
    unfold rleData
    simp only [rd_ok buf (ip + i) (by omega), bind, Except.bind, hs, if_false]
    exact ih (i + 1) _ (by omega) (by omega)

/-- the byte loop of `read_rle` is the bit readers' load step, `⌈w/8⌉` times on an empty `uint32` accumulator -/
theorem rleData_eq (buf : List Nat) (S ip Lf : Nat) (hS : ∀ i, i < Lf → rd buf (ip + i) = .ok (window S (8 * i) 8)) :
    ∀ (k i : Nat), i + k ≤ 4 → i + k ≤ Lf → rleData buf ip k i (window S 0 (8 * i)) = .ok (window S 0 (8 * (i + k))) := by
  intro k
  induction k with
  | zero => intro i _ _; rfl
  | succ k ih =>
    intro i h4 hlen
    have hs : ¬ (i * 8 ≥ 32) := by omega
    have hl := window_load S 0 (8 * i) 32 (by omega)
    rw [Nat.zero_add] at hl
    unfold rleData
    simp only [hS i (by omega), bind, Except.bind, hs, if_false, and_ff _ (window_lt S _ 8)]
    rw [Nat.mul_comm i 8, hl, ← Nat.mul_succ, ih (i + 1) (by omega) (by omega), Nat.add_right_comm, Nat.add_assoc]

theorem readHybridLoop_stop {buf : List Nat} {w length start item fuel loc : Nat} {o : Out} (h : ¬ (loc - start < length ∧ o.cap > 0)) :
    readHybridLoop buf w length start item fuel loc o = .ok (o, loc) := by
  cases fuel <;> simp only [readHybridLoop, h, if_false]

variable {buf : List Nat} {loc : Nat}

theorem readRle_at {w v : Nat} (h : At buf loc (leBytes ((w + 7) / 8) v)) (c header : Nat) (o : Out)
    (hw : w ≤ 32) (hv : v < 2 ^ w) (hh : header / 2 = c) :
    readRle buf loc header w o 4
      = .ok ({ items := o.items ++ List.replicate (min c (o.cap / 4)) v, cap := o.cap - (min c (o.cap / 4)) * 4 },
             loc + (w + 7) / 8) := by
  have hv8 : v < 2 ^ ((w + 7) / 8 * 8) := Nat.lt_of_lt_of_le hv (Nat.pow_le_pow_right (by decide) (by omega))
  have hS : ∀ i, i < (w + 7) / 8 → rd buf (loc + i) = .ok (window v (8 * i) 8) := fun i hi => by
    have := h.rd_window (leBytes_lt _ v) i (by rwa [leBytes_length])
    rwa [leNat_leBytes_lt_two_pow hv8] at this
  have hd := rleData_eq buf v loc _ hS ((w + 7) / 8) 0 (by omega) (by omega)
  rw [Nat.mul_zero, window_zero, Nat.zero_add, Nat.mul_comm, window_of_lt hv8] at hd
  unfold readRle
  simp only [hd, bind, Except.bind, hh, if_true]
  rw [show (if c > o.cap / 4 then o.cap / 4 else c) = min c (o.cap / 4) by split <;> omega]

theorem readBitpacked_at {w : Nat} {vs : List Nat} (h : At buf loc (packLE w vs)) (o : Out)
    (hw1 : 1 ≤ w) (hw : w ≤ 24) (hne : vs ≠ []) (h8 : vs.length % 8 = 0) (hv : ∀ v ∈ vs, v < 2 ^ w) (header : Nat)
    (hh : header / 2 = vs.length / 8) :
    readBitpacked buf loc header w o 4
      = .ok ({ items := o.items ++ vs.take (o.cap / 4), cap := o.cap - (min vs.length (o.cap / 4)) * 4 },
             loc + (vs.length / 8) * w) := by
  have hceil : (vs.length * w + 7) / 8 = vs.length / 8 * w := by rw [← packLE_length, packLE_length_groups w vs h8]
  have hgw : 1 ≤ vs.length / 8 * w := Nat.mul_pos (by have := List.length_pos_iff.mpr hne; omega) hw1
  have hn : header / 2 * 8 = vs.length := by omega
  rw [readBitpacked_stream buf (leNat (packLE w vs)) loc header w o hw fun i hi => h.rd_window (leBytes_lt _ _) i
      (by rw [hn, hceil, Nat.max_eq_right hgw] at hi; rw [packLE_length, hceil]; exact hi),
    hn, hceil, Nat.max_eq_right hgw, unpackNat, Nat.min_comm, ← List.take_range, List.map_take,
    show (List.range vs.length).map (fun i => bitField w i (leNat (packLE w vs))) = vs from unpackLE_packLE w vs hv]

/-- What the reader needs of a run beyond `Run.wf`: the header fits the 32 bits the reader keeps of it, and a bit-packed
    run is not empty (`read_bitpacked` loads its first byte before it looks at the count). -/
def RunOk : Run → Prop
  | .rle c _ => c * 2 < 2 ^ 32
  | .bp vs => vs ≠ [] ∧ (vs.length / 8) * 2 + 1 < 2 ^ 32

theorem RunOk.header_lt {r : Run} (h : RunOk r) : r.header < 2 ^ 32 := by
  cases r with
  | rle c v => exact h
  | bp vs => exact h.2

theorem readHybridLoop_run (w : Nat) (hw1 : 1 ≤ w) (hw : w ≤ 24) (r : Run) (hwf : r.wf w = true) (hok : RunOk r)
    (h : At buf loc (encodeRun w r)) (fuel : Nat) (o : Out) (start length : Nat) (hcond : loc - start < length ∧ o.cap > 0) :
    readHybridLoop buf w length start 4 (fuel + 1) loc o
      = readHybridLoop buf w length start 4 fuel (loc + (encodeRun w r).length)
          { items := o.items ++ r.values.take (o.cap / 4), cap := o.cap - min r.values.length (o.cap / 4) * 4 } := by
  rw [encodeRun_eq] at h
  conv => lhs; unfold readHybridLoop
  rw [if_pos hcond, readUvarint_at h.left (Nat.lt_trans hok.header_lt (by decide)), encodeRun_eq, List.length_append,
    ← Nat.add_assoc]
  simp only [bind, Except.bind, Nat.mod_eq_of_lt hok.header_lt]
  cases r with
  | rle c v =>
    have he : c * 2 % 2 = 0 := by omega
    simp only [Run.header, Run.payload, Run.values, he, if_true] at h ⊢
    rw [readRle_at h.right c (c * 2) o (by omega) (Run.wf_rle hwf) (by omega), leBytes_length,
      List.take_replicate, List.length_replicate, Nat.min_comm]
  | bp vs =>
    obtain ⟨h8, hv⟩ := Run.wf_bp hwf
    have he : ¬ ((vs.length / 8 * 2 + 1) % 2 = 0) := by omega
    simp only [Run.header, Run.payload, Run.values, he, if_false] at h ⊢
    rw [readBitpacked_at h.right o hw1 hw hok.1 h8 hv _ (by omega), packLE_length_groups w vs h8]

theorem readHybridLoop_runs (w : Nat) (hw1 : 1 ≤ w) (hw : w ≤ 24) :
    ∀ (rs : List Run) (fuel loc : Nat) (o : Out) (start length : Nat),
      (∀ r ∈ rs, r.wf w = true ∧ RunOk r) → rs.length < fuel → At buf loc (encodeRuns w rs) →
      start ≤ loc → loc - start + (encodeRuns w rs).length = length →
      ∃ o' loc', readHybridLoop buf w length start 4 fuel loc o = .ok (o', loc') ∧
        o'.items = o.items ++ (rs.flatMap Run.values).take (o.cap / 4) := by
  intro rs
  induction rs with
  | nil =>
    intro fuel loc o start length _ _ _ hs hl
    exact ⟨o, loc, readHybridLoop_stop (by simp [encodeRuns] at hl; omega), by simp⟩
  | cons r rs ih =>
    intro fuel loc o start length hok hf hat hs hl
    rw [encodeRuns_cons] at hat
    rw [encodeRuns_cons, List.length_append] at hl
    by_cases hcap : o.cap > 0
    · obtain ⟨f, rfl⟩ : ∃ f, fuel = f + 1 := ⟨fuel - 1, by omega⟩
      have hpos := encodeRun_length_pos w r
      obtain ⟨hwf, hrok⟩ := hok r List.mem_cons_self
      obtain ⟨o', loc', hl', hitems⟩ := ih f (loc + (encodeRun w r).length)
        { items := o.items ++ r.values.take (o.cap / 4), cap := o.cap - min r.values.length (o.cap / 4) * 4 }
        start length (fun x hx => hok x (List.mem_cons_of_mem _ hx)) (by simpa using hf) hat.right (by omega) (by omega)
      refine ⟨o', loc', ?_, ?_⟩
      · rw [readHybridLoop_run w hw1 hw r hwf hrok hat.left f o start length ⟨by omega, hcap⟩]
        exact hl'
      · rw [hitems]
        simp only [List.flatMap_cons, List.take_append, List.append_assoc]
        -- what is left is `(o.cap - min n (o.cap / 4) * 4) / 4 = o.cap / 4 - n`: the room after this run, from bytes and in items
        congr 3
        omega
    · -- the output is full (`o.loc < o.nbytes` fails): the loop stops with runs unread
      exact ⟨o, loc, readHybridLoop_stop (by omega), by simp [show o.cap = 0 by omega]⟩

theorem readHybrid_runs (w : Nat) (hw1 : 1 ≤ w) (hw : w ≤ 24) (rs : List Run) (pre post : List Nat) (o : Out)
    (hok : ∀ r ∈ rs, r.wf w = true ∧ RunOk r) :
    ∃ o' loc', readHybrid (pre ++ encodeRuns w rs ++ post) pre.length w (encodeRuns w rs).length o 4 = .ok (o', loc') ∧
      o'.items = o.items ++ (rs.flatMap Run.values).take (o.cap / 4) := by
  have hlen := encodeRuns_length_ge w rs
  exact readHybridLoop_runs w hw1 hw rs _ pre.length o pre.length _ hok (by simp only [List.length_append]; omega)
    (at_mid pre _ post) (Nat.le_refl _) (by omega)

end PqV.Impl
