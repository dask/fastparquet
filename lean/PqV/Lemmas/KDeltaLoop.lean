import PqV.Lemmas.Wrap
import PqV.Lemmas.KDelta
import PqV.Lemmas.KVarint
import PqV.Lemmas.Delta
/-!
The kernel `delta_binary_unpack` on the bytes of conforming blocks.  Three notions carry the proofs: the output array as the
values stored so far followed by the free slots (`DOut.Rep`), bytes positioned in the buffer (`At`), and the stored values as
a chain `kchain` over the increments that the specification's `recon` runs over (`chains_agree`).
-/
namespace PqV.Impl
open PqV.Spec

/-- a miniblock as a conforming writer emits it, of a width that `delta_read_bitpacked` can read (≤ 28, see `dbpStep_at`) -/
structure MiniOk (vpm : Nat) (m : Mini) : Prop where
  w28 : m.1 ≤ 28
  len : m.2.length = vpm
  zero : m.1 = 0 → m.2 = List.replicate vpm 0
  small : ∀ d ∈ m.2, d < 2 ^ m.1

def okI64 (n : Int) : Prop := -(2 ^ 63 : Int) ≤ n ∧ n < (2 ^ 63 : Int)

structure BlockOk (vpm mpb : Nat) (b : Block) : Prop where
  md : okI64 b.1
  len : b.2.length = mpb
  minis : ∀ m ∈ b.2, MiniOk vpm m

theorem BlockOk.wf {vpm mpb : Nat} {b : Block} (h : BlockOk vpm mpb b) : BlockWf vpm mpb b :=
  ⟨h.len, fun m hm => ⟨(h.minis m hm).len, (h.minis m hm).small⟩⟩

/-- the output holds the values `d` stored so far, `pos` behind them, then the slots `a` -/
def DOut.Rep (o : DOut) (d a : List Nat) : Prop := o.slots.toList = d ++ a ∧ o.pos = d.length

theorem DOut.Rep.size {o : DOut} {d a : List Nat} (h : o.Rep d a) : o.slots.size = d.length + a.length := by
  have := congrArg List.length h.1
  simpa using this

theorem DOut.Rep.write {o : DOut} {d a : List Nat} {x : Nat} (h : o.Rep d (x :: a)) (v : Nat) :
    (o.write v).Rep (d ++ [v]) a := by
  have hin : o.pos < o.slots.size := by rw [h.size, h.2]; simp
  rw [DOut.write, if_pos hin]
  exact ⟨by simp [h.1, h.2], by simp [h.2]⟩

theorem DOut.Rep.write_full {o : DOut} {d : List Nat} (h : o.Rep d []) (v : Nat) : o.write v = o := by
  have hin : ¬ o.pos < o.slots.size := by rw [h.size, h.2]; simp
  rw [DOut.write, if_neg hin]

theorem DOut.Rep.read {o : DOut} {d a : List Nat} {x : Nat} (h : o.Rep d (x :: a)) : o.read.1 = x := by
  have hin : o.pos < o.slots.size := by rw [h.size, h.2]; simp
  have : o.slots.toList[o.pos]? = some x := by rw [h.1, h.2]; simp
  rw [DOut.read, if_pos hin]
  simpa [hin] using this

theorem DOut.Rep.store (f : Nat → Nat) : ∀ (vals : List Nat) (o : DOut) (d a : List Nat), o.Rep d a →
    (vals.foldl (fun (o : DOut) v => o.write (f v)) o).Rep (d ++ (vals.take a.length).map f) (a.drop vals.length)
  | [], o, d, a, h => by simpa using h
  | v :: t, o, d, [], h => by
    rw [List.foldl_cons, h.write_full]
    simpa using DOut.Rep.store f t o d [] h
  | v :: t, o, d, x :: a, h => by
    simpa using DOut.Rep.store f t _ _ _ (h.write (f v))

/-- the values the kernel stores / the running value it is left with, over the increments `es`:
    it stores the value at item width, then adds with 64-bit wrap-around -/
def kchain (ib : Nat) : Int → List Int → List Nat
  | _, [] => []
  | v, e :: es => wrapU ib v :: kchain ib (wrapS 64 (v + e)) es
def kval : Int → List Int → Int
  | v, [] => v
  | v, e :: es => kval (wrapS 64 (v + e)) es

theorem kchain_append (ib : Nat) (v : Int) (x y : List Int) :
    kchain ib v (x ++ y) = kchain ib v x ++ kchain ib (kval v x) y := by
  induction x generalizing v with
  | nil => rfl
  | cons e t ih => simp [kchain, kval, ih]

theorem kval_append (v : Int) (x y : List Int) : kval v (x ++ y) = kval (kval v x) y := by
  induction x generalizing v with
  | nil => rfl
  | cons e t ih => simp [kval, ih]

theorem kchain_take_append (ib : Nat) (v : Int) (x y : List Int) (c : Nat) (h : x.length ≤ c) :
    kchain ib v ((x ++ y).take c) = kchain ib v x ++ kchain ib (kval v x) (y.take (c - x.length)) := by
  rw [List.take_append, List.take_of_length_le h, kchain_append]

/-- **the j-loops** `deltaMini` (`g = wrapS ib`) and `deltaZero` (`g = 0`) are one recursion: store the
    value, add `min_delta + g (slot read)`, count down.  When the slots ahead yield the increments `es`
    (none is looked at when only one value is still to come), the loop stores the chain over them. -/
theorem jloop_run (ib : Nat) (md : Int) (g : Nat → Int) (loop : Nat → DOut → Int → Int → DOut × Int × Int × Bool)
    (h0 : ∀ o v c, loop 0 o v c = (o, v, c, false))
    (hS : ∀ j o v c, loop (j + 1) o v c =
      if c - 1 ≤ 0 then (o.write (wrapU ib v), wrapS 64 (v + md + g o.read.1), c - 1, true)
      else loop j (o.write (wrapU ib v)) (wrapS 64 (v + md + g o.read.1)) (c - 1)) :
    ∀ (es : List Int) (o : DOut) (v : Int) (c : Nat) (d a : List Nat), o.Rep d a → 1 ≤ c → a.length = c →
      (c = 1 ∧ es ≠ [] ∨ (a.take (min es.length c)).map (md + g ·) = es.take c) →
      ∃ o' a' v', loop es.length o v c = (o', v', ((c - es.length : Nat) : Int), decide (c ≤ es.length)) ∧
        o'.Rep (d ++ kchain ib v (es.take c)) a' ∧ a'.length = c - es.length ∧ (es.length < c → v' = kval v es) := by
  intro es
  induction es with
  | nil =>
    intro o v c d a hr hc ha _
    have : ¬ c ≤ 0 := by omega
    exact ⟨o, a, v, by simp [h0, this], by simpa [kchain] using hr, by simpa using ha, fun _ => rfl⟩
  | cons e es ih =>
    intro o v c d a hr hc ha h
    obtain ⟨c, rfl⟩ : ∃ c', c = c' + 1 := ⟨c - 1, by omega⟩
    obtain ⟨x, a, rfl⟩ : ∃ x t, a = x :: t := List.exists_cons_of_length_pos (by omega)
    rw [List.length_cons, hS, hr.read, Int.natCast_add, Int.natCast_one, Int.add_sub_cancel]
    by_cases hc0 : c = 0
    · -- `count` is down to 0: the value is stored and the loop is done; the slot it read only goes into `v'`
      subst hc0
      exact ⟨o.write (wrapU ib v), a, wrapS 64 (v + md + g x), by simp, by simpa [kchain] using hr.write (wrapU ib v),
        by simpa using ha, fun h => by omega⟩
    · have hcnt : ¬ ((c : Int) ≤ 0) := by omega
      obtain ⟨h1, -⟩ | h := h
      · omega
      rw [List.length_cons, Nat.succ_min_succ, List.take_succ_cons, List.map_cons, List.take_succ_cons, List.cons.injEq] at h
      obtain ⟨o', a', v', e1, r, l, f⟩ := ih (o.write (wrapU ib v)) (wrapS 64 (v + md + g x)) c _ a (hr.write _) (by omega)
        (by simpa using ha) (Or.inr h.2)
      refine ⟨o', a', v', ?_, ?_, by omega, fun hlt => ?_⟩
      · rw [if_neg hcnt, e1, Nat.add_sub_add_right, decide_eq_decide.mpr Nat.add_le_add_iff_right.symm]
      · rw [List.take_succ_cons, kchain, ← h.1, ← Int.add_assoc]
        simpa using r
      · rw [f (by omega), kval, ← h.1, Int.add_assoc]

theorem deltaMini_loop (ib : Nat) (md : Int) (j : Nat) (o : DOut) (v c : Int) : deltaMini ib md (j + 1) o v c =
    if c - 1 ≤ 0 then (o.write (wrapU ib v), wrapS 64 (v + md + wrapS ib o.read.1), c - 1, true)
    else deltaMini ib md j (o.write (wrapU ib v)) (wrapS 64 (v + md + wrapS ib o.read.1)) (c - 1) := by
  -- reading the slot moves `pos` on and the model sets it back
  have : ({ o.read.2 with pos := if o.pos < o.slots.size then o.read.2.pos - 1 else o.read.2.pos } : DOut) = o := by
    unfold DOut.read; split <;> simp
  simp only [deltaMini, this]

/-- (with the redex `(fun _ => 0) o.read.1`, so that it is `hS` of `jloop_run` at `g = fun _ => 0`) -/
theorem deltaZero_loop (ib : Nat) (md : Int) (j : Nat) (o : DOut) (v c : Int) : deltaZero ib md (j + 1) o v c =
    if c - 1 ≤ 0 then (o.write (wrapU ib v), wrapS 64 (v + md + (fun _ => 0) o.read.1), c - 1, true)
    else deltaZero ib md j (o.write (wrapU ib v)) (wrapS 64 (v + md + (fun _ => 0) o.read.1)) (c - 1) := by
  simp only [deltaZero, Int.add_zero]

theorem deltaBlockLoop_step (buf : List Nat) (ib vpm : Nat) (hib : 32 ≤ ib) (hvpm : 1 ≤ vpm)
    (md : Int) (bwLoc k i loc : Nat) (m : Mini) (hm : MiniOk vpm m) (hw : rd buf (bwLoc + i) = .ok m.1)
    (hat : At buf loc (encMini m)) (o : DOut) (v : Int) (c : Nat) (d a : List Nat) (hr : o.Rep d a) (hc : 1 ≤ c)
    (ha : a.length = c) :
    ∃ o' a' v' loc', o'.Rep (d ++ kchain ib v ((incs md m.2).take c)) a' ∧ a'.length = c - vpm ∧
      (vpm < c → v' = kval v (incs md m.2) ∧ loc' = loc + (encMini m).length) ∧
      deltaBlockLoop buf ib vpm md bwLoc (k + 1) i loc o v c =
        if c ≤ vpm then .ok (loc', o', v', ((c - vpm : Nat) : Int), true)
        else deltaBlockLoop buf ib vpm md bwLoc k (i + 1) loc' o' v' ((c - vpm : Nat) : Int) := by
  have hlen := hm.len
  have hA : (incs md m.2).length = vpm := by rw [incs_length, hlen]
  by_cases hw0 : m.1 = 0
  · -- width 0: no bytes, every delta is 0
    obtain ⟨o', a', v', e, r, l, f⟩ := jloop_run ib md (fun _ => 0) (deltaZero ib md) (fun _ _ _ => rfl) (deltaZero_loop ib md)
      (incs md m.2) o v c d a hr hc ha
      (Or.inr (by simp [incs, hm.zero hw0, List.map_const', List.take_replicate, ha, Nat.min_comm]))
    rw [hA] at e l f
    refine ⟨o', a', v', loc, r, l, fun h => ⟨f h, by simp [encMini, hw0]⟩, ?_⟩
    rw [deltaBlockLoop]
    simp only [hw, bind, Except.bind, hw0, ne_eq, not_true_eq_false, if_false, e, decide_eq_true_eq]
  · by_cases hc1 : c = 1
    · -- the last value: nothing is unpacked, the slot read does not matter
      obtain ⟨o', a', v', e, r, l, f⟩ := jloop_run ib md (wrapS ib ·) (deltaMini ib md) (fun _ _ _ => rfl) (deltaMini_loop ib md)
        (incs md m.2) o v c d a hr hc ha (Or.inl ⟨hc1, List.ne_nil_of_length_pos (by omega)⟩)
      rw [hA] at e l f
      refine ⟨o', a', v', loc, r, l, fun h => by omega, ?_⟩
      have hgt : ¬ ((c : Int) > 1) := by omega
      rw [deltaBlockLoop]
      simp only [hw, bind, Except.bind, hw0, ne_eq, not_false_eq_true, if_true, hgt, if_false, e, decide_eq_true_eq]
    · -- the deltas are unpacked into the free slots (as many as fit), `pos` goes back, the j-loop reads them
      -- back unchanged: they are below `2^28`, so neither the store at item width nor `wrapS ib` alters them
      have hsmall : ∀ x ∈ m.2, x < 2 ^ (ib - 1) := fun x hx =>
        Nat.lt_of_lt_of_le (hm.small x hx) (Nat.pow_le_pow_right (by norm_num) (by have := hm.w28; omega))
      have henc := encMini_eq_packLE m
      have hrb := deltaReadBitpacked_at buf loc m.1 m.2 (by omega) hm.w28 hm.small (henc ▸ hat)
      rw [hlen, ← henc] at hrb
      have hst := hr.store (· % 2 ^ ib) m.2 o d a
      have hes : ((((m.2.take a.length).map (· % 2 ^ ib)) ++ a.drop m.2.length).take (min (incs md m.2).length c)).map
          (fun x : Nat => md + wrapS ib x) = (incs md m.2).take c := by
        rw [hA, List.take_left' (by rw [List.length_map, List.length_take, hlen, ha, Nat.min_comm]), List.map_map, ha, incs,
          ← List.map_take]
        refine List.map_congr_left fun x hx => ?_
        have hx := hsmall x (List.mem_of_mem_take hx)
        rw [Function.comp, Nat.mod_eq_of_lt (Nat.lt_of_lt_of_le hx (Nat.pow_le_pow_right (by norm_num) (Nat.sub_le _ _))),
          wrapS_small ib x (by omega) hx]
      obtain ⟨o', a', v', e, r, l, f⟩ := jloop_run ib md (wrapS ib ·) (deltaMini ib md) (fun _ _ _ => rfl) (deltaMini_loop ib md)
        (incs md m.2) { (m.2.foldl (fun (o : DOut) v => o.write (v % 2 ^ ib)) o) with pos := o.pos } v c d _
        ⟨by rw [hst.1, List.append_assoc], hr.2⟩ hc (by simp [ha, hlen]; omega) (Or.inr hes)
      rw [hA] at e l f
      refine ⟨o', a', v', _, r, l, fun h => ⟨f h, rfl⟩, ?_⟩
      have hgt : (c : Int) > 1 := by omega
      rw [deltaBlockLoop]
      simp only [hw, bind, Except.bind, hw0, ne_eq, not_false_eq_true, if_true, hgt, hrb, e, decide_eq_true_eq]

theorem deltaBlockLoop_run (buf : List Nat) (ib vpm : Nat) (hib : 32 ≤ ib) (hvpm : 1 ≤ vpm)
    (md : Int) (bwLoc : Nat) : ∀ (ms : List Mini) (i loc : Nat) (o : DOut) (v : Int) (c : Nat) (d a : List Nat),
    (∀ m ∈ ms, MiniOk vpm m) → At buf (bwLoc + i) (ms.map (·.1)) → At buf loc (ms.flatMap encMini) →
    o.Rep d a → 1 ≤ c → a.length = c →
    ∃ o' a' v' loc', o'.Rep (d ++ kchain ib v ((blockIncs md ms).take c)) a' ∧ a'.length = c - (blockIncs md ms).length ∧
      ((blockIncs md ms).length < c → v' = kval v (blockIncs md ms) ∧ loc' = loc + (ms.flatMap encMini).length) ∧
      deltaBlockLoop buf ib vpm md bwLoc ms.length i loc o v c
        = .ok (loc', o', v', ((c - (blockIncs md ms).length : Nat) : Int), decide (c ≤ (blockIncs md ms).length)) := by
  intro ms
  induction ms with
  | nil =>
    intro i loc o v c d a _ _ _ hr hc ha
    have : ¬ c ≤ 0 := by omega
    exact ⟨o, a, v, loc, by simpa [blockIncs, kchain] using hr, by simpa [blockIncs] using ha, fun _ => ⟨rfl, rfl⟩,
      by simp [deltaBlockLoop, blockIncs, this]⟩
  | cons m rest ih =>
    intro i loc o v c d a hok hW hD hr hc ha
    have hm := hok m List.mem_cons_self
    have hA : (incs md m.2).length = vpm := by rw [incs_length, hm.len]
    rw [blockIncs_cons, List.length_append, hA, List.length_cons]
    simp only [List.map_cons, List.flatMap_cons, List.length_append] at hW hD ⊢
    obtain ⟨o1, a1, v1, loc1, r1, l1, f1, e1⟩ := deltaBlockLoop_step buf ib vpm hib hvpm md bwLoc rest.length i loc
      m hm hW.rd_eq hD.left o v c d a hr hc ha
    rw [e1]
    by_cases hcv : c ≤ vpm
    · -- the count runs out in this miniblock: `done`, and the miniblocks behind it are not looked at
      rw [if_pos hcv, List.take_append_of_le_length (by rw [hA]; exact hcv)]
      obtain ⟨h1, h2⟩ : c - (vpm + (blockIncs md rest).length) = c - vpm ∧ c ≤ vpm + (blockIncs md rest).length := by omega
      exact ⟨o1, a1, v1, loc1, r1, by rw [h1, l1], fun h => absurd h2 (Nat.not_le_of_lt h), by rw [h1, decide_eq_true h2]⟩
    · have hle : (incs md m.2).length ≤ c := by rw [hA]; exact Nat.le_of_not_le hcv
      obtain ⟨hv1, hloc1⟩ := f1 (Nat.lt_of_not_le hcv)
      rw [List.take_of_length_le hle] at r1
      obtain ⟨o', a', v', loc', r2, l2, f2, e2⟩ := ih (i + 1) loc1 o1 v1 (c - vpm) _ a1
        (fun x hx => hok x (List.mem_cons_of_mem _ hx)) (by rw [← Nat.add_assoc]; exact hW.tail) (by rw [hloc1]; exact hD.right)
        r1 (by omega) l1
      rw [if_neg hcv, e2, Nat.sub_sub]
      refine ⟨o', a', v', loc', ?_, by rw [l2, Nat.sub_sub], fun h => ?_, ?_⟩
      · rw [kchain_take_append ib v _ _ c hle, hA, ← hv1, ← List.append_assoc]
        exact r2
      · obtain ⟨a, b⟩ := f2 (by omega)
        exact ⟨by rw [a, hv1, kval_append], by rw [b, hloc1, Nat.add_assoc]⟩
      · rw [decide_eq_decide.mpr (Nat.sub_le_iff_le_add')]

theorem deltaOuter_run (buf : List Nat) (ib vpm mpb : Nat) (hib : 32 ≤ ib) (hvpm : 1 ≤ vpm)
    (hmpb : 1 ≤ mpb) : ∀ (blocks : List Block) (fuel loc : Nat) (o : DOut) (v : Int) (c : Nat) (d a : List Nat),
    (∀ b ∈ blocks, BlockOk vpm mpb b) → At buf loc (blocks.flatMap encBlockP) → blocks.length < fuel →
    o.Rep d a → 1 ≤ c → a.length = c → c ≤ (streamIncs blocks).length →
    ∃ o' loc', deltaOuter buf ib mpb vpm fuel loc o v c = .ok (loc', o') ∧
      o'.Rep (d ++ kchain ib v ((streamIncs blocks).take c)) [] := by
  intro blocks
  induction blocks with
  | nil => intro fuel loc o v c d a _ _ _ _ hc _ hle; simp [streamIncs] at hle; omega
  | cons b rest ih =>
    intro fuel loc o v c d a hok hat hfuel hr hc ha hle
    obtain ⟨f, rfl⟩ : ∃ f, fuel = f + 1 := ⟨fuel - 1, by omega⟩
    have hb := hok b List.mem_cons_self
    rw [streamIncs_cons] at hle ⊢
    simp only [List.flatMap_cons, encBlockP, List.length_cons, List.length_append] at hat hle hfuel
    have hmp : ¬ mpb < 1 := by omega
    obtain ⟨o1, a1, v1, loc1, r1, l1, f1, e1⟩ := deltaBlockLoop_run buf ib vpm hib hvpm b.1
      (loc + (uvarintEnc (zigzagEnc b.1)).length) b.2 0 (loc + (uvarintEnc (zigzagEnc b.1)).length + mpb) o v c d a hb.minis
      hat.left.left.right (by have := hat.left.right; rwa [List.length_append, List.length_map, hb.len, ← Nat.add_assoc] at this) hr hc ha
    rw [hb.len] at e1
    simp only [deltaOuter, readUvarint_at hat.left.left.left (zigzagEnc_lt64 b.1 hb.md),
      zigzagLong_enc b.1 hb.md, bind, Except.bind, hmp, if_false, e1]
    by_cases hcv : c ≤ (blockIncs b.1 b.2).length
    · -- the count runs out in this block, and with it the free slots (`a.length = c`): the kernel returns
      obtain rfl : a1 = [] := List.eq_nil_of_length_eq_zero (by rw [l1, Nat.sub_eq_zero_of_le hcv])
      refine ⟨o1, loc1, by simp [hcv], ?_⟩
      rwa [List.take_append_of_le_length hcv]
    · have hle' := Nat.le_of_not_le hcv
      obtain ⟨hv1, hloc1⟩ := f1 (Nat.lt_of_not_le hcv)
      rw [List.take_of_length_le hle'] at r1
      obtain ⟨o', loc', e2, r2⟩ := ih f loc1 o1 v1 (c - (blockIncs b.1 b.2).length) _ a1 (fun x hx => hok x (List.mem_cons_of_mem _ hx))
        (by rw [hloc1]; simpa [hb.len, Nat.add_assoc] using hat.right) (by omega) r1 (by omega) l1 (by omega)
      refine ⟨o', loc', by simp [hcv, e2], ?_⟩
      rw [kchain_take_append ib v _ _ c hle', ← hv1, ← List.append_assoc]
      exact r2

theorem deltaBinaryUnpack_stream {buf : List Nat} {loc : Nat} (longval : Bool)
    {blockSize mpb cnt : Nat} {first : Int} {blocks : List Block}
    (hat : At buf loc (encStreamP blockSize mpb cnt first blocks))
    (hbs : blockSize < 2 ^ 64) (hmpb64 : mpb < 2 ^ 64) (hfirst : okI64 first)
    (hmpb : 1 ≤ mpb) (hvpm : 1 ≤ blockSize / mpb) (hcnt1 : 1 ≤ cnt) (hcnt : cnt < 2 ^ 63)
    (hblocks : ∀ b ∈ blocks, BlockOk (blockSize / mpb) mpb b)
    (hroom : cnt ≤ blockSize / mpb * mpb * blocks.length) :
    ∃ slots loc', deltaBinaryUnpack buf loc cnt longval = .ok (slots, loc') ∧
      slots.toList = kchain (if longval then 64 else 32) first ((streamIncs blocks).take cnt) := by
  simp only [encStreamP, List.append_assoc] at hat
  have hfuel : blocks.length < buf.length + 2 := by
    have h1 := length_le_flatMap_encBlockP blocks
    have h2 := hat.right.right.right.right.length_le
    omega
  obtain ⟨o', loc', e, r⟩ := deltaOuter_run buf (if longval then 64 else 32) (blockSize / mpb) mpb (by split <;> omega)
    hvpm hmpb blocks (buf.length + 2) _ { slots := Array.replicate cnt 0, pos := 0 } first cnt [] (List.replicate cnt 0)
    hblocks hat.right.right.right.right hfuel ⟨by simp, rfl⟩ hcnt1 (by simp) (by rw [streamIncs_length _ mpb blocks fun b hb => (hblocks b hb).wf]; exact hroom)
  refine ⟨o'.slots, loc', ?_, by simpa using r.1⟩
  have hm0 : ¬ mpb = 0 := by omega
  simp only [deltaBinaryUnpack, readUvarint_at hat.left hbs, readUvarint_at hat.right.left hmpb64,
    readUvarint_at hat.right.right.left (show cnt < 2 ^ 64 by omega),
    readUvarint_at hat.right.right.right.left (zigzagEnc_lt64 first hfirst), zigzagLong_enc first hfirst,
    bind, Except.bind, hm0, if_false, wrapS_small 64 cnt (by decide) hcnt, e]

/-- `es ++ [x]`: the kernel uses one more increment, for the value it never stores -/
theorem chains_agree (bits : Nat) (hb : bits ≤ 64) : ∀ (es : List Int) (s V x : Int),
    s % ((2 ^ bits : Nat) : Int) = V % ((2 ^ bits : Nat) : Int) →
    ofSigned bits s :: (recon bits s es).map (ofSigned bits) = kchain bits V (es ++ [x]) := by
  intro es
  induction es with
  | nil => intro s V x h; exact congrArg (fun a => [a]) (wrapU_congr bits s V h)
  | cons e t ih =>
    intro s V x h
    simp only [recon, List.map_cons, List.cons_append, kchain]
    rw [show ofSigned bits s = wrapU bits V from wrapU_congr bits s V h]
    congr 1
    apply ih
    rw [wrapSg_mod, wrapS64_mod bits hb]
    exact Int.add_emod_eq_add_emod_right e h

theorem deltaKernel_eq_spec {pre post : List Nat} {longval : Bool} {blockSize mpb cnt : Nat} {first : Int} {blocks : List Block}
    (hbs : blockSize < 2 ^ 64) (hmpb64 : mpb < 2 ^ 64) (hfirst : okI64 first)
    (hmpb : 1 ≤ mpb) (hvpm : 1 ≤ blockSize / mpb) (h8 : blockSize / mpb % 8 = 0) (hcnt1 : 1 ≤ cnt) (hcnt : cnt < 2 ^ 63)
    (hblocks : ∀ b ∈ blocks, BlockOk (blockSize / mpb) mpb b)
    (hroom : cnt ≤ blockSize / mpb * mpb * blocks.length) :
    ∃ vals rest slots loc',
      decodeDelta (if longval then 64 else 32) (encStreamP blockSize mpb cnt first blocks ++ post) = some (vals, rest) ∧
      deltaBinaryUnpack (pre ++ encStreamP blockSize mpb cnt first blocks ++ post) pre.length cnt longval = .ok (slots, loc') ∧
      slots.toList = vals.map (ofSigned (if longval then 64 else 32)) := by
  obtain ⟨slots, loc', k1, k2⟩ := deltaBinaryUnpack_stream longval (at_mid pre _ post) hbs hmpb64 hfirst hmpb hvpm hcnt1 hcnt
    hblocks hroom
  set bits := (if longval then 64 else 32) with hbits
  have hb64 : bits ≤ 64 := by rw [hbits]; split <;> omega
  have hE := streamIncs_length _ mpb blocks fun b hb => (hblocks b hb).wf
  obtain ⟨rest', d1, _⟩ := decodeDelta_stream bits blockSize mpb cnt first blocks post hmpb hvpm h8 hcnt1
    (fun b hb => (hblocks b hb).wf) (by omega)
  refine ⟨_, rest', slots, loc', d1, k1, ?_⟩
  · -- the kernel's `cnt` stored values use `cnt - 1` increments, as the specification's do
    obtain ⟨n, rfl⟩ : ∃ n, cnt = n + 1 := ⟨cnt - 1, by omega⟩
    rw [k2, List.take_succ_eq_append_getElem (by omega)]
    exact (chains_agree bits hb64 _ (wrapSg bits first) first _ (wrapSg_mod bits first)).symm

/-- the specification's running value over a sequence of (minimum delta, delta) pairs -/
def specLastP (bits : Nat) : Int → List (Int × Nat) → Int
  | last, [] => last
  | last, e :: es => specLastP bits (wrapSg bits (last + e.1 + (e.2 : Int))) es

theorem specLastP_append (bits : Nat) (v : Int) (a b : List (Int × Nat)) :
    specLastP bits v (a ++ b) = specLastP bits (specLastP bits v a) b := by
  induction a generalizing v with
  | nil => rfl
  | cons e t ih => simp [specLastP, ih]

theorem bytes_lt_of_parts (pre mid post : List Nat) (h1 : ∀ b ∈ pre, b < 256) (h2 : ∀ b ∈ mid, b < 256) (h3 : ∀ b ∈ post, b < 256) :
    ∀ b ∈ pre ++ mid ++ post, b < 256 :=
  List.forall_mem_append.2 ⟨List.forall_mem_append.2 ⟨h1, h2⟩, h3⟩

end PqV.Impl
