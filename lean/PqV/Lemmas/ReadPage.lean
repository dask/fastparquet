/-
  fastparquet's own reader (model `Impl.readDataPage` + `placePage`, tied to `core.read_data_page` by
  the `rpage.v1` stream) applied to the page its own writer lays down (model `Impl.writerPageBody`, tied by `wpage.chunk`)
  returns the cells that went in: through `read_def`, through the `skip_definition_bytes` shortcut, through
  `read_plain`, and through the byte-exact `np.frombuffer` shortcut for 8/16/32-bit dictionary codes.
-/
import PqV.Lemmas.WritePage
import PqV.Lemmas.SkipDef
namespace PqV.Impl
open PqV.Spec

theorem readValues_frombuffer (ptype tl k g n : Nat) (hk : k = 1 ∨ k = 2 ∨ k = 4) (L tail : List Nat)
    (hL : L.length = g * 8) (hL256 : ∀ v ∈ L, v < 256 ^ k) :
    readValues ptype tl ENC_RLE_DICTIONARY true n ((k * 8) :: (uvarintEnc (g * 2 + 1) ++ (L.flatMap (leBytes k) ++ tail)))
      = some (.indices ((L.map (toSigned (k * 8))).take n)) := by
  have h0 : ¬ (ENC_RLE_DICTIONARY = ENC_PLAIN) := by decide
  have hbw : (k * 8 = 8 ∨ k * 8 = 16 ∨ k * 8 = 32) := by omega
  have hdiv : k * 8 / 8 = k := by omega
  have hnum : (g * 2 + 1) / 2 * 8 = g * 8 := by omega
  have hroom : ¬ ((L.flatMap (leBytes k) ++ tail).length < g * 8 * k) := by
    rw [List.length_append, flatMap_length_const (leBytes k) k L (fun x _ => leBytes_length _ _), hL]; omega
  simp only [readValues, h0, if_false, or_true, if_true, hbw, and_self, uvarint_rt, hnum, hdiv, hroom]
  congr 3
  apply List.ext_getElem
  · simp [hL]
  · intro i h1 h2
    simp only [List.getElem_map, List.getElem_range]
    rw [drop_take_flatMap_leBytes k L tail hL256 i (by simpa using h2)]

theorem nonNull_length_le (cells : List Cell) : (nonNull cells).length ≤ cells.length := List.length_filter_le _ _

theorem nonNull_of_no_null (cells : List Cell) (h : ∀ v ∈ cells, v ≠ Cell.null) : nonNull cells = cells :=
  List.filter_eq_self.mpr (by intro a ha; simpa using h a ha)

theorem nonNull_full_no_null (cells : List Cell) (h : cells.length - (nonNull cells).length = 0) : ∀ v ∈ cells, v ≠ Cell.null := by
  have hlen : (nonNull cells).length = cells.length := by have := nonNull_length_le cells; omega
  have := List.length_filter_eq_length_iff.mp (by unfold nonNull at hlen; exact hlen)
  intro v hv
  simpa using this v hv

/-- `hitem`: codes go through the `np.frombuffer` shortcut (8/16/32 bits only), which reads them as signed integers -/
theorem readValues_written (c : ColSpec) (hpt : c.ptype ≤ 7) (cats vals : List Cell) (tail : List Nat)
    (hok : ∀ v ∈ vals, valOk c cats.length v = true)
    (hitem : ∀ item, c.dictItem = some item → (item = 1 ∨ item = 2 ∨ item = 4) ∧ ∀ v ∈ vals, cellNat v < 2 ^ (item * 8 - 1)) :
    ∃ pv, readValues c.ptype c.typeLength (encOf c) true vals.length (writerValues c vals ++ tail) = some pv ∧
      deref (dictOf c cats) pv = some (vals.map (render c cats)) := by
  unfold encOf dictOf writerValues
  cases hd : c.dictItem with
  | none =>
    refine ⟨.plain vals, ?_, by simp only [deref, map_render_plain hd]⟩
    simp only [readValues, Option.isSome_none, Bool.false_eq_true, if_false, if_true,
      writerPlain_decodes c.ptype c.typeLength hpt vals tail fun v hv => valOk_plain hd (hok v hv), Option.map_some]
  | some item =>
    obtain ⟨hi124, hsmall⟩ := hitem item hd
    obtain ⟨hvals, hcodes⟩ := valOk_codes hd hok
    obtain ⟨k, hlen, e⟩ := writerDictData_items item (vals.map cellNat)
    have hall := lt_of_mem_append_zeros (fun i hi => (hcodes i hi).2) (Nat.pow_pos (by norm_num)) k
    refine ⟨.indices ((vals.map cellNat).map fun k : Nat => (k : Int)), ?_, ?_⟩
    · simp only [Option.isSome_some, if_true]
      rw [e, List.cons_append, List.append_assoc, readValues_frombuffer _ _ item _ _ hi124 _ tail hlen hall]
      congr 2
      rw [List.map_append, List.take_left' (by simp), List.map_map, List.map_map]
      exact List.map_congr_left fun x hx => toSigned_small (item * 8) (cellNat x) (hsmall x hx) (by omega)
    · -- no code is negative, so numpy's wrap-around indexing is plain indexing
      simp only [Option.isSome_some, if_true, deref]
      rw [List.mapM_map, mapM_some _ (fun k => cats.getD k Cell.null) (vals.map cellNat), ← map_render_codes hd, ← hvals]
      intro k hk
      simp [(hcodes k hk).1, List.getD_eq_getElem?_getD]

theorem leafOf_maxDef_nulls (c : ColSpec) (h : c.hasNulls = true) : (leafOf c).maxDef = 1 := by simp [leafOf, h]
theorem leafOf_maxDef_req (c : ColSpec) (h : c.hasNulls = false) : (leafOf c).maxDef = 0 := by simp [leafOf, h]

theorem skip_written_block (c : ColSpec) (hv : c.v2 = false) (hn : c.hasNulls = true) (cells : List Cell) (rest : List Nat)
    (hall : ∀ v ∈ cells, v ≠ Cell.null) :
    (writerLevels c cells ++ rest).drop (skipLen cells.length) = rest := by
  have hbits : (notNullBits cells).all (· == 1) = true := by
    rw [List.all_eq_true]
    intro b hb
    obtain ⟨x, hx, rfl⟩ := List.mem_map.mp hb
    simp [hall x hx]
  have hlen : (writerLevels c cells).length = skipLen cells.length := by
    rw [skipLen_eq_blockLen]
    simp only [writerLevels, hn, if_true, writerDefBlock_eq, hv, Bool.false_eq_true, if_false, writerDefBody_eq, hbits,
      List.length_append, leBytes_length, notNullBits_length, List.length_cons, List.length_nil, blockLen,
      PqV.Gen.SkipDef.lenPrefix, PqV.Gen.SkipDef.shift, uvarintLen, Nat.shiftLeft_eq, Nat.pow_one]
    omega
  rw [← hlen, List.drop_left' rfl]

section page
variable {c : ColSpec} {n : Nat} {cells : List Cell} (hok : PageOk c n cells) (hv : c.v2 = false)
include hok hv

theorem readDef_written (rest : List Nat) :
    readDef (leafOf c).maxDef cells.length (writerLevels c cells ++ rest)
      = some (if cells.length - (nonNull cells).length = 0 then none else some (levelsOf c cells),
              cells.length - (nonNull cells).length, rest) := by
  have hC := count_levels hok
  rw [countMax] at hC
  simp only [readDef, (levels_v1 hok hv rest).1, hC]

theorem readDataPage_written (skip : Bool) (hskip : skip = true → ∀ v ∈ cells, v ≠ Cell.null) :
    readDataPage (!c.hasNulls) (leafOf c).maxDef c.ptype c.typeLength (encOf c) cells.length skip true (writerPageBody c cells)
      = (readValues c.ptype c.typeLength (encOf c) true (nonNull cells).length
          (writerValues c (nonNull cells) ++ List.replicate 8 0)).map
        fun v => (if cells.length - (nonNull cells).length = 0 then none else some (levelsOf c cells), v) := by
  have hsub : cells.length - (cells.length - (nonNull cells).length) = (nonNull cells).length := by
    have := nonNull_length_le cells; omega
  rw [written_page_body, hv]
  unfold readDataPage
  cases hn : c.hasNulls with
  | false => simp [writerLevels, hn, nonNull_of_no_null cells (hok.no_nulls hn)]
  | true =>
    cases hs : skip with
    | true => simp [skip_written_block c hv hn cells _ (hskip hs), nonNull_of_no_null cells (hskip hs)]
    | false => simp [readDef_written hok hv, hsub]

end page

/-- **the reader reads back what the writer wrote (v1 page)**: `core.read_data_page` followed by `read_col`'s placement,
    applied to the page body `write_column` lays down for ANY cells — through the level block, or stepping over it when
    the chunk statistics say "no null" (`skip = true`, which the writer only records when no page has a null) — returns
    the cells; for a categorical column the category each code names. -/
theorem read_back_written_page (c : ColSpec) (hv : c.v2 = false) (hpt : c.ptype ≤ 7) (cats cells : List Cell)
    (hok : PageOk c cats.length cells) (skip : Bool) (hskip : skip = true → ∀ v ∈ cells, v ≠ Cell.null)
    (hitem : ∀ item, c.dictItem = some item →
      (item = 1 ∨ item = 2 ∨ item = 4) ∧ ∀ v ∈ nonNull cells, cellNat v < 2 ^ (item * 8 - 1)) :
    (readDataPage (!c.hasNulls) (leafOf c).maxDef c.ptype c.typeLength (encOf c) cells.length skip true
        (writerPageBody c cells)).bind (placePage (leafOf c).maxDef (dictOf c cats))
      = some (cells.map (render c cats)) := by
  obtain ⟨pv, hRV, hDR⟩ := readValues_written c hpt cats (nonNull cells) (List.replicate 8 0) hok.vals_ok hitem
  simp only [readDataPage_written hok hv skip hskip, hRV, Option.map_some, Option.bind_some, placePage, hDR]
  by_cases hz : cells.length - (nonNull cells).length = 0
  · -- `definition_levels = None`: no null in this page, the values fill it
    rw [if_pos hz, nonNull_of_no_null cells (nonNull_full_no_null cells hz)]
  · rw [if_neg hz]
    exact congrArg some (scatter_page hok cats)

theorem no_null_of_count_zero (pages : List (List Cell)) (h : writerNullCount pages = 0) : ∀ p ∈ pages, ∀ v ∈ p, v ≠ Cell.null :=
  fun p hp => nonNull_full_no_null p
    (List.sum_eq_zero_iff_forall_eq_nat.mp h _ (List.mem_map_of_mem (f := fun p => p.length - (nonNull p).length) hp))

end PqV.Impl
