/-
  The pages the model of `write_column` lays down (Impl.WritePage) are decoded by the
  specification reader's page functions (`Spec.decodePage` / `decodePages`, the functions `Spec.File` runs on real
  bytes) to exactly the cells that went in, with tight run framing.
-/
import PqV.Impl.WritePage
import PqV.Lemmas.Page
import PqV.Lemmas.KPlain
import PqV.Lemmas.DecodePage
namespace PqV.Impl
open PqV.Spec

/-- **the layout arithmetic of `encode_dict` and the v1 trailer, as the code has it NOW** (regenerated on every run): width
    byte = 8·itemsize, the run announces ⌈n/8⌉ groups, the zero padding completes the last group in BYTES, a v1 page ends with
    8 zero bytes.  Every theorem below about written pages goes through this lemma, so an edit of that arithmetic that
    changes a value breaks them. -/
theorem write_layout_now (n item : Nat) :
    PqV.Gen.WriteLayout.recognised = true ∧
    (PqV.Gen.WriteLayout.dictWidthByte item).toNat = item * 8 ∧
    (PqV.Gen.WriteLayout.dictHeader n item).toNat = (n + 7) / 8 * 2 + 1 ∧
    (PqV.Gen.WriteLayout.dictPad n item).toNat = ((n + 7) / 8 * 8 - n) * item ∧
    PqV.Gen.WriteLayout.v1Trailer = 8 := by
  refine ⟨by decide, ?_, ?_, ?_, by decide⟩
  · simp only [PqV.Gen.WriteLayout.dictWidthByte]; omega
  · simp only [PqV.Gen.WriteLayout.dictHeader]; omega
  · simp only [PqV.Gen.WriteLayout.dictPad]
    have hk : (((n : Int) + 7) / 8 * 8 - (n : Int)) = (((n + 7) / 8 * 8 - n : Nat) : Int) := by omega
    rw [hk, ← Nat.cast_mul, Int.toNat_natCast]

/-- the two level-block layouts of `make_definitions`, as the code has them NOW: an RLE run `varint(n << 1)` with value byte 1
    when the page has no null, a bit-packed run `varint(len(out) << 1 | 1)` otherwise, a 4-byte length prefix in v1 -/
theorem def_layout_now (n : Nat) :
    (PqV.Gen.WriteLayout.defRleHeader n).toNat = n * 2 ∧ PqV.Gen.WriteLayout.defRleValue.toNat = 1 ∧
    (PqV.Gen.WriteLayout.defBpHeader n).toNat = n * 2 + 1 ∧ PqV.Gen.WriteLayout.defPrefixBytes = 4 := by
  refine ⟨?_, by decide, ?_, by decide⟩
  · simp only [PqV.Gen.WriteLayout.defRleHeader]; omega
  · simp only [PqV.Gen.WriteLayout.defBpHeader]; omega

@[simp] theorem leafOf_ptype (c : ColSpec) : (leafOf c).ptype = c.ptype := rfl
@[simp] theorem leafOf_tl (c : ColSpec) : (leafOf c).typeLength = c.typeLength := rfl
@[simp] theorem leafOf_maxRep (c : ColSpec) : (leafOf c).maxRep = 0 := rfl
theorem maxRep_zero (c : ColSpec) : (leafOf c).maxRep = 0 := rfl

theorem writerDefBody_eq (bits : List Nat) :
    writerDefBody bits = if bits.all (· == 1) then uvarintEnc (bits.length * 2) ++ [1]
      else uvarintEnc ((writerPackBools bits).length * 2 + 1) ++ writerPackBools bits := by
  simp only [writerDefBody, (def_layout_now bits.length).1, (def_layout_now 0).2.1, (def_layout_now (writerPackBools bits).length).2.2.1]

theorem writerDefBlock_eq (v2 : Bool) (bits : List Nat) :
    writerDefBlock v2 bits = if v2 then writerDefBody bits else leBytes 4 (writerDefBody bits).length ++ writerDefBody bits := by
  simp only [writerDefBlock, (def_layout_now 0).2.2.2]

theorem writerDictData_items (item : Nat) (codes : List Nat) :
    ∃ k, (codes ++ List.replicate k 0).length = (codes.length + 7) / 8 * 8 ∧
      writerDictData item codes
        = (item * 8) :: (uvarintEnc ((codes.length + 7) / 8 * 2 + 1) ++ (codes ++ List.replicate k 0).flatMap (leBytes item)) := by
  obtain ⟨_, h1, h2, h3, _⟩ := write_layout_now codes.length item
  refine ⟨(codes.length + 7) / 8 * 8 - codes.length, by simp; omega, ?_⟩
  simp [writerDictData, h1, h2, h3, flatMap_replicate_zero]

theorem writerDictData_stream (item : Nat) (codes : List Nat) (h : ∀ v ∈ codes, v < 256 ^ item) :
    ∃ bs, writerDictData item codes = (item * 8) :: bs ∧ RunStream (item * 8) codes bs := by
  obtain ⟨k, hlen, e⟩ := writerDictData_items item codes
  have hall := lt_of_mem_append_zeros h (Nat.pow_pos (by norm_num)) k
  have hs := RunStream.bp (w := item * 8) (by rw [hlen]; omega) (by rw [pow256]; exact hall)
  rw [packLE_bytes item _ hall, hlen, Nat.mul_div_cancel _ (by decide : 0 < 8)] at hs
  exact ⟨_, e, hs⟩

theorem packedBits_stream (bits : List Nat) (hb : ∀ v ∈ bits, v < 2) :
    RunStream 1 bits (uvarintEnc ((writerPackBools bits).length * 2 + 1) ++ writerPackBools bits) := by
  have h := RunStream.bp (w := 1) (padded_length_mod8 bits) (lt_of_mem_append_zeros hb (by decide) _)
  rwa [← writerPackBools_eq bits hb, ← writerPackBools_length] at h

theorem writerDefBody_stream (bits : List Nat) (hb : ∀ v ∈ bits, v < 2) : RunStream 1 bits (writerDefBody bits) := by
  rw [writerDefBody_eq]
  split
  · rename_i hall
    have h := RunStream.rle (w := 1) bits.length (v := 1) (by decide)
    rwa [← List.eq_replicate_iff.mpr ⟨rfl, fun b hbm => by simpa using List.all_eq_true.mp hall b hbm⟩] at h
  · exact packedBits_stream bits hb

/-- a non-null cell that `encode_plain` can lay down for this physical type -/
def plainOk (ptype tl : Nat) : Cell → Bool
  | .null => false
  | .int n =>
    if ptype = PT_BOOLEAN then decide (n < 2)
    else if ptype = PT_BYTE_ARRAY ∨ ptype = PT_FLBA then false
    else match fixedWidth ptype tl with
      | some w => decide (n < 256 ^ w)
      | none => false
  | .bytes b =>
    if ptype = PT_BYTE_ARRAY then decide (b.length < 2 ^ 32)
    else if ptype = PT_FLBA then decide (b.length = tl) else false

/-- stated through singletons so that the lemmas about one cell can speak of `plainEncode ptype tl [v]`: a `match` written
    in a lemma does not unify with the one inside `plainEncode` -/
theorem plainEncode_flatMap {ptype : Nat} (tl : Nat) (hb : ptype ≠ PT_BOOLEAN) (vals : List Cell) :
    plainEncode ptype tl vals = vals.flatMap fun v => plainEncode ptype tl [v] := by
  unfold plainEncode
  rw [if_neg hb]
  split <;> simp

theorem plainOk_byteArray {tl : Nat} {v : Cell} (h : plainOk PT_BYTE_ARRAY tl v = true) :
    ∃ b : List Nat, b.length < 2 ^ 32 ∧ plainEncode PT_BYTE_ARRAY tl [v] = leBytes 4 b.length ++ b ∧ id v = Cell.bytes b := by
  cases v with
  | null => simp [plainOk] at h
  | int n => simp [plainOk, PT_BOOLEAN, PT_BYTE_ARRAY] at h
  | bytes b => exact ⟨b, by simpa [plainOk] using h, by simp [plainEncode, PT_BOOLEAN, PT_BYTE_ARRAY], rfl⟩

theorem plainOk_fixed {ptype tl w : Nat} (hw : fixedWidth ptype tl = some w) {v : Cell}
    (h : plainOk ptype tl v = true) :
    (plainEncode ptype tl [v]).length = w ∧
    (if decide (ptype = PT_FLBA) then Cell.bytes (plainEncode ptype tl [v]) else Cell.int (leNat (plainEncode ptype tl [v])))
      = id v := by
  obtain ⟨hb, hba⟩ := fixedWidth_some hw
  cases v with
  | null => simp [plainOk] at h
  | int n =>
    by_cases hf : ptype = PT_FLBA
    · simp [plainOk, hf] at h
    · have hn : n < 256 ^ w := by simpa [plainOk, hb, hba, hf, hw] using h
      simp [plainEncode, hb, hba, hw, leBytes_length, hf, leNat_leBytes_lt hn]
  | bytes b =>
    by_cases hf : ptype = PT_FLBA
    · subst hf
      have hl : b.length = tl := by simpa [plainOk, PT_BYTE_ARRAY, PT_FLBA] using h
      have : tl = w := Option.some.inj hw
      simp [plainEncode, PT_BOOLEAN, PT_BYTE_ARRAY, PT_FLBA, hl, this]
    · simp [plainOk, hba, hf] at h

theorem ints_of {vals : List Cell} {P : Nat → Prop} (h : ∀ v ∈ vals, ∃ k, v = Cell.int k ∧ P k) :
    vals = (vals.map cellNat).map Cell.int ∧ ∀ k ∈ vals.map cellNat, P k := by
  constructor
  · rw [List.map_map]
    refine ((List.map_congr_left fun v hv => ?_).trans (List.map_id vals)).symm
    obtain ⟨k, rfl, _⟩ := h v hv
    rfl
  · intro k hk
    obtain ⟨v, hv, rfl⟩ := List.mem_map.mp hk
    obtain ⟨k, rfl, hP⟩ := h v hv
    exact hP

theorem plainDecode_bool (tl : Nat) (bits pad tail : List Nat) (hb : ∀ v ∈ bits ++ pad, v < 2) :
    plainDecode PT_BOOLEAN tl bits.length (packLE 1 (bits ++ pad) ++ tail) = some (bits.map Cell.int) := by
  have hsz : ¬ (packLE 1 (bits ++ pad) ++ tail).length * 8 < bits.length := by
    simp only [List.length_append, packLE_length]; omega
  simp only [plainDecode, if_true, hsz, if_false]
  rw [unpackLE_take 1 bits.length (bits ++ pad).length _ (by simp), unpackLE_packLE_append 1 _ tail (by simpa using hb)]
  simp

theorem writerPlain_decodes (ptype tl : Nat) (hpt : ptype ≤ 7) (vals : List Cell) (tail : List Nat)
    (hok : ∀ v ∈ vals, plainOk ptype tl v = true) :
    plainDecode ptype tl vals.length (writerPlain ptype tl vals ++ tail) = some vals := by
  unfold writerPlain
  by_cases hb : ptype = PT_BOOLEAN
  · -- booleans: `convert`'s packing is `packLE 1` of the bits padded with zeros
    subst hb
    obtain ⟨hvals, hb2⟩ := ints_of (P := (· < 2)) fun v hv => by
      have := hok v hv
      cases v with
      | null => simp [plainOk] at this
      | int n => exact ⟨n, rfl, by simpa [plainOk] using this⟩
      | bytes b => simp [plainOk, PT_BOOLEAN, PT_BYTE_ARRAY, PT_FLBA] at this
    have := plainDecode_bool tl _ _ tail (lt_of_mem_append_zeros hb2 (by decide) (8 - (vals.map cellNat).length % 8))
    rwa [← writerPackBools_eq _ hb2, ← hvals, List.length_map] at this
  · rw [if_neg hb, plainEncode_flatMap tl hb]
    by_cases hba : ptype = PT_BYTE_ARRAY
    · subst hba
      have := plainByteArrays_flatMap (fun v => plainEncode PT_BYTE_ARRAY tl [v]) id vals tail
        (fun v hv => plainOk_byteArray (hok v hv)) []
      simpa [plainDecode, PT_BYTE_ARRAY, PT_BOOLEAN] using this
    · obtain ⟨w, hw⟩ : ∃ w, fixedWidth ptype tl = some w := by
        simp only [PT_BOOLEAN, PT_BYTE_ARRAY] at hb hba
        have : ptype = 1 ∨ ptype = 2 ∨ ptype = 3 ∨ ptype = 4 ∨ ptype = 5 ∨ ptype = 7 := by omega
        rcases this with rfl | rfl | rfl | rfl | rfl | rfl <;> exact ⟨_, rfl⟩
      have := plainDecode_fixed hw (fun v => plainEncode ptype tl [v]) id vals tail (fun v hv => plainOk_fixed hw (hok v hv))
      rwa [List.map_id] at this

/-- a non-null cell the column can hold: a PLAIN-encodable value, or (categorical) a code of an existing category that
    fits the code width -/
def valOk (c : ColSpec) (ncats : Nat) (v : Cell) : Bool :=
  match c.dictItem with
  | none => plainOk c.ptype c.typeLength v
  | some item => match v with
    | .int n => decide (n < ncats ∧ n < 256 ^ item)
    | _ => false

/-- what the writer is asked to put on one page -/
structure PageOk (c : ColSpec) (ncats : Nat) (cells : List Cell) : Prop where
  vals_ok : ∀ v ∈ nonNull cells, valOk c ncats v = true
  no_nulls : c.hasNulls = false → ∀ v ∈ cells, v ≠ Cell.null
  fits : (writerDefBody (notNullBits cells)).length < 2 ^ 32

/-- the levels the reader should see -/
def levelsOf (c : ColSpec) (cells : List Cell) : List Nat :=
  if c.hasNulls then notNullBits cells else List.replicate cells.length 0

/-- the value a reader should see for a non-null cell: itself, or (categorical) the category the code names -/
def render (c : ColSpec) (cats : List Cell) (x : Cell) : Cell :=
  match c.dictItem with
  | none => x
  | some _ => match x with
    | .int i => cats.getD i Cell.null
    | y => y

/-- what a reader of the data pages goes by: the encoding their headers name, and the dictionary page's categories -/
def encOf (c : ColSpec) : Nat := if c.dictItem.isSome then ENC_RLE_DICTIONARY else ENC_PLAIN
def dictOf (c : ColSpec) (cats : List Cell) : Option (List Cell) := if c.dictItem.isSome then some cats else none

theorem valOk_plain {c : ColSpec} {n : Nat} {v : Cell} (hd : c.dictItem = none) (h : valOk c n v = true) :
    plainOk c.ptype c.typeLength v = true := by
  simpa [valOk, hd] using h

theorem valOk_codes {c : ColSpec} {n item : Nat} {vals : List Cell} (hd : c.dictItem = some item)
    (hok : ∀ v ∈ vals, valOk c n v = true) :
    vals = (vals.map cellNat).map Cell.int ∧ ∀ k ∈ vals.map cellNat, k < n ∧ k < 256 ^ item := by
  refine ints_of fun v hv => ?_
  have h := hok v hv
  cases v with
  | int k => exact ⟨k, rfl, by simpa [valOk, hd] using h⟩
  | null => simp [valOk, hd] at h
  | bytes b => simp [valOk, hd] at h

theorem map_render_plain {c : ColSpec} (hd : c.dictItem = none) (cats vals : List Cell) : vals.map (render c cats) = vals :=
  (List.map_congr_left fun x _ => by simp [render, hd]).trans (List.map_id _)

theorem map_render_codes {c : ColSpec} {item : Nat} (hd : c.dictItem = some item) (cats : List Cell) (codes : List Nat) :
    (codes.map Cell.int).map (render c cats) = codes.map fun i => cats.getD i Cell.null := by
  rw [List.map_map]
  exact List.map_congr_left fun i _ => by simp [render, hd]

theorem render_null (c : ColSpec) (cats : List Cell) : render c cats Cell.null = Cell.null := by
  unfold render; split <;> rfl

theorem notNullBits_lt (cells : List Cell) : ∀ v ∈ notNullBits cells, v < 2 := by
  intro v hv
  obtain ⟨c, _, rfl⟩ := List.mem_map.mp hv
  split <;> omega

theorem notNullBits_length (cells : List Cell) : (notNullBits cells).length = cells.length := by simp [notNullBits]

theorem levelsOf_length (c : ColSpec) (cells : List Cell) : (levelsOf c cells).length = cells.length := by
  unfold levelsOf; split <;> simp [notNullBits_length]

theorem countMax_levels {m lo : Nat} (h : lo ≠ m) (cells : List Cell) :
    countMax m (cells.map fun x => if x = Cell.null then lo else m) = (nonNull cells).length := by
  induction cells with
  | nil => rfl
  | cons x xs ih =>
    rw [List.map_cons, countMax_cons, ih]
    by_cases hx : x = Cell.null <;> simp [hx, h, nonNull, Nat.add_comm]

theorem scatter_levels {m lo : Nat} (h : lo ≠ m) {f : Cell → Cell} (hf : f Cell.null = Cell.null) (cells : List Cell) :
    scatter m (cells.map fun x => if x = Cell.null then lo else m) ((nonNull cells).map f) = cells.map f := by
  induction cells with
  | nil => rfl
  | cons x xs ih =>
    by_cases hx : x = Cell.null
    · simpa [hx, nonNull, List.filter_cons, scatter, h, hf] using ih
    · simpa [hx, nonNull, List.filter_cons, scatter] using ih

theorem written_page_body (c : ColSpec) (cells : List Cell) : writerPageBody c cells
    = writerLevels c cells ++ (writerValues c (nonNull cells) ++ (if c.v2 then [] else List.replicate 8 0)) := by
  simp [writerPageBody, (write_layout_now 0 0).2.2.2.2]

theorem levels_v2 (c : ColSpec) (hv : c.v2 = true) (cells : List Cell) :
    levelsV2 (leafOf c).maxDef cells.length (writerLevels c cells) = levelsOf c cells ∧
    levelsLooseV2 (leafOf c).maxDef cells.length (writerLevels c cells) = 0 := by
  unfold writerLevels levelsOf leafOf levelsV2 levelsLooseV2
  cases c.hasNulls
  · simp
  · have hw : widthFor 1 = 1 := by decide
    have hs := writerDefBody_stream _ (notNullBits_lt cells)
    have hd := hs.decode []
    have ht := hs.tight []
    rw [List.append_nil, notNullBits_length] at hd ht
    simp [writerDefBlock_eq, hv, hw, hd, ht]

section page
variable {c : ColSpec} {n : Nat} {cells : List Cell} (hok : PageOk c n cells)
include hok

/-- either way the levels say where the nulls are: the maximal level at a value, another one at a null (a column
    without definition levels has no null) -/
theorem levelsOf_eq : ∃ lo, lo ≠ (leafOf c).maxDef ∧
    levelsOf c cells = cells.map fun x => if x = Cell.null then lo else (leafOf c).maxDef := by
  unfold levelsOf leafOf
  cases h : c.hasNulls
  · exact ⟨1, by simp, (List.map_const' ..).symm.trans (List.map_congr_left fun x hx => by simp [hok.no_nulls h x hx])⟩
  · exact ⟨0, by simp, rfl⟩

theorem count_levels : countMax (leafOf c).maxDef (levelsOf c cells) = (nonNull cells).length := by
  obtain ⟨lo, hlo, e⟩ := levelsOf_eq hok
  rw [e, countMax_levels hlo]

theorem scatter_page (cats : List Cell) :
    scatter (leafOf c).maxDef (levelsOf c cells) ((nonNull cells).map (render c cats)) = cells.map (render c cats) := by
  obtain ⟨lo, hlo, e⟩ := levelsOf_eq hok
  rw [e, scatter_levels hlo (render_null c cats)]

theorem levels_v1 (hv : c.v2 = false) (rest : List Nat) :
    levelsV1 (leafOf c).maxDef cells.length (writerLevels c cells ++ rest) = some (levelsOf c cells, rest) ∧
    levelsLooseV1 (leafOf c).maxDef cells.length (writerLevels c cells ++ rest) = 0 := by
  unfold writerLevels levelsOf leafOf
  cases c.hasNulls
  · simp [levelsV1, levelsLooseV1]
  · have h := (writerDefBody_stream _ (notNullBits_lt cells)).levelsV1 (m := 1) (by decide) (by decide) hok.fits rest
    rw [notNullBits_length] at h
    simpa only [if_true, writerDefBlock_eq, hv, Bool.false_eq_true, if_false] using h

theorem written_page_levels :
    pageLevels (leafOf c) (writerPageInfo c cells) (writerPageBody c cells)
      = some ⟨List.replicate cells.length 0, levelsOf c cells,
          writerValues c (nonNull cells) ++ (if c.v2 then [] else List.replicate 8 0), 0, 0⟩ := by
  have hbody := written_page_body c cells
  unfold pageLevels
  cases hv : c.v2
  · obtain ⟨hL, hT⟩ := levels_v1 hok hv (writerValues c (nonNull cells) ++ List.replicate 8 0)
    simp only [writerPageInfo, hv, Bool.false_eq_true, if_false, if_true, leafOf_maxRep, levelsV1_zero, levelsLooseV1_zero,
      hbody, hL, hT]
  · obtain ⟨hL, hT⟩ := levels_v2 c hv cells
    simp only [writerPageInfo, hv, if_true, show (3 : Nat) ≠ 0 from by decide, if_false, leafOf_maxRep, levelsV2_zero,
      levelsLooseV2_zero, List.take_zero, List.drop_zero, Nat.zero_add, hbody, List.take_left' rfl, List.drop_left' rfl, hL, hT,
      levelsOf_length, List.length_replicate, ne_eq, not_true_eq_false, or_self, Nat.lt_irrefl, false_and, gt_iff_lt,
      count_levels hok]

end page

theorem scatter_pages {c : ColSpec} {n : Nat} {pages : List (List Cell)} (hok : ∀ p ∈ pages, PageOk c n p) (cats : List Cell) :
    scatter (leafOf c).maxDef (pages.flatMap (levelsOf c)) (pages.flatMap fun p => (nonNull p).map (render c cats))
      = pages.flatten.map (render c cats) := by
  induction pages with
  | nil => simp [scatter]
  | cons p ps ih =>
    have hp := hok p List.mem_cons_self
    simp only [List.flatMap_cons, List.flatten_cons, List.map_append]
    rw [scatter_append _ _ _ _ _ (by rw [List.length_map, count_levels hp]), scatter_page hp,
      ih fun q hq => hok q (List.mem_cons_of_mem _ hq)]

def accAfter (c : ColSpec) (cats : List Cell) (acc : PageAcc) (cells : List Cell) : PageAcc :=
  { acc with defs := acc.defs ++ levelsOf c cells, reps := acc.reps ++ List.replicate cells.length 0,
             vals := acc.vals ++ (nonNull cells).map (render c cats), count := acc.count + cells.length }

section chunk
variable {c : ColSpec} (hpt : c.ptype ≤ 7) (cats : List Cell)
include hpt

theorem values_decode (vals : List Cell) (tail : List Nat) (hok : ∀ v ∈ vals, valOk c cats.length v = true) :
    decodeValues c.ptype c.typeLength (encOf c) (dictOf c cats) vals.length (writerValues c vals ++ tail)
      = some (vals.map (render c cats)) ∧
    valuesLoose c.ptype (encOf c) vals.length (writerValues c vals ++ tail) = 0 := by
  unfold writerValues encOf dictOf
  cases hd : c.dictItem with
  | none =>
    constructor
    · simp only [Option.isSome_none, Bool.false_eq_true, if_false, decodeValues, if_true, map_render_plain hd]
      exact writerPlain_decodes c.ptype c.typeLength hpt vals tail fun v hv => valOk_plain hd (hok v hv)
    · simp [valuesLoose, ENC_PLAIN, ENC_PLAIN_DICTIONARY, ENC_RLE_DICTIONARY, ENC_RLE]
  | some item =>
    obtain ⟨hvals, hcodes⟩ := valOk_codes hd hok
    obtain ⟨bs, hbs, hst⟩ := writerDictData_stream item (vals.map cellNat) fun k hk => (hcodes k hk).2
    have hix := hst.dictIndices tail
    have htight := hst.tight tail
    rw [List.length_map] at hix htight
    have h0 : ¬ (ENC_RLE_DICTIONARY = ENC_PLAIN) := by decide
    constructor
    · simp only [Option.isSome_some, if_true, decodeValues, hbs, List.cons_append, h0, if_false, or_true, hix]
      rw [dict_lookup cats _ fun k hk => (hcodes k hk).1, ← map_render_codes hd, ← hvals]
    · simp only [Option.isSome_some, if_true, valuesLoose, or_true, hbs, List.cons_append, htight]

theorem written_page_decodes {cells : List Cell} (hok : PageOk c cats.length cells) {acc : PageAcc}
    (hdict : acc.dict = dictOf c cats) :
    decodePage (leafOf c) acc (writerPageInfo c cells) (writerPageBody c cells) = .ok (accAfter c cats acc cells) := by
  have hV := values_decode hpt cats (nonNull cells) (if c.v2 then [] else List.replicate 8 0) hok.vals_ok
  have hC := count_levels hok
  refine (decodePage_data_ok ?_).mpr ⟨rfl, _, written_page_levels hok, (nonNull cells).map (render c cats), ?_, ?_⟩
  · simp only [writerPageInfo]; split <;> decide
  · dsimp only; rw [hC, hdict]; exact hV.1
  · dsimp only
    rw [hC, show valuesLoose (leafOf c).ptype (writerPageInfo c cells).encoding _ _ = 0 from hV.2]
    rfl

theorem written_pages_decode : ∀ (pages : List (List Cell)) (acc : PageAcc), acc.dict = dictOf c cats →
    (∀ p ∈ pages, PageOk c cats.length p) →
    decodePages (leafOf c) acc (pages.map fun cells => (writerPageInfo c cells, writerPageBody c cells))
      = .ok { acc with defs := acc.defs ++ pages.flatMap (levelsOf c), reps := acc.reps ++ List.replicate pages.flatten.length 0,
                       vals := acc.vals ++ pages.flatMap (fun p => (nonNull p).map (render c cats)),
                       count := acc.count + pages.flatten.length }
  | [], acc, _, _ => by simp [decodePages]
  | p :: ps, acc, hdict, hok => by
    refine decodePages_cons_ok.mpr ⟨_, written_page_decodes hpt cats (hok p List.mem_cons_self) hdict, ?_⟩
    rw [written_pages_decode ps (accAfter c cats acc p) hdict fun q hq => hok q (List.mem_cons_of_mem _ hq)]
    simp only [accAfter, List.flatMap_cons, List.append_assoc, List.flatten_cons, List.length_append, Nat.add_assoc,
      List.replicate_append_replicate]

theorem written_dict_page (acc : PageAcc) (hcats : ∀ x ∈ cats, plainOk c.ptype c.typeLength x = true) :
    decodePage (leafOf c) acc (writerDictInfo c cats) (writerDictBody c cats) = .ok { acc with dict := some cats } := by
  have := writerPlain_decodes c.ptype c.typeLength hpt cats [] hcats
  rw [List.append_nil] at this
  exact (decodePage_dict_ok rfl).mpr ⟨rfl, _, this, rfl⟩

theorem decodePages_writerChunk (pages : List (List Cell))
    (hcats : c.dictItem.isSome → ∀ x ∈ cats, plainOk c.ptype c.typeLength x = true) :
    decodePages (leafOf c) {} (writerChunk c cats pages) = decodePages (leafOf c) { dict := dictOf c cats }
      (pages.map fun cells => (writerPageInfo c cells, writerPageBody c cells)) := by
  unfold writerChunk dictOf
  cases h : c.dictItem.isSome
  · rfl
  · simp only [if_true, List.cons_append, List.nil_append, decodePages, written_dict_page hpt cats {} (hcats h)]

end chunk

theorem chunk_page_kinds (c : ColSpec) (cats : List Cell) (pages : List (List Cell)) :
    (writerChunk c cats pages).map (fun x => (x.1.ptypeTag, x.1.encoding))
      = (if c.dictItem.isSome then [(2, ENC_PLAIN)] else []) ++ List.replicate pages.length (if c.v2 then 3 else 0, encOf c) := by
  unfold writerChunk
  rw [List.map_append, List.map_map]
  congr 1
  · split <;> simp [writerDictInfo]
  · simp [Function.comp_def, writerPageInfo, encOf, List.map_const']

theorem filter_replicate_self {α} [BEq α] [LawfulBEq α] (n : Nat) (a : α) : ((List.replicate n a).filter (· == a)).length = n := by
  rw [List.filter_replicate, if_pos (beq_self_eq_true a), List.length_replicate]

theorem filter_replicate_ne {α} [BEq α] [LawfulBEq α] (n : Nat) (a b : α) (h : a ≠ b) : ((List.replicate n a).filter (· == b)).length = 0 := by
  rw [List.filter_replicate, if_neg (by simpa using h), List.length_nil]

end PqV.Impl
