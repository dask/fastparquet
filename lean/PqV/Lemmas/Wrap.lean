import PqV.Impl.Kernels
/-! Machine-integer reinterpretation (`wrapU`, `wrapS`) is the identity on values that fit the width. -/
namespace PqV.Impl

theorem wrapU_small (ib d : Nat) (h : d < 2 ^ ib) : wrapU ib (d : Int) = d := by
  unfold wrapU
  rw [Int.emod_eq_of_lt (by omega) (by exact_mod_cast h)]; rfl

theorem wrapS_of_range (ib : Nat) (hib : 1 ≤ ib) (x : Int) (h1 : -((2 ^ (ib - 1) : Nat) : Int) ≤ x)
    (h2 : x < ((2 ^ (ib - 1) : Nat) : Int)) : wrapS ib x = x := by
  have h2' := Nat.two_pow_pred_add_two_pow_pred hib
  unfold wrapS wrapU
  generalize 2 ^ (ib - 1) = P at *
  rw [← h2']
  by_cases hx : 0 ≤ x
  · rw [Int.emod_eq_of_lt hx (by omega)]
    have : x.toNat < P := by omega
    simp only [this, if_true]; omega
  · -- a negative `x` is represented by `x + 2^ib`, which lies in the upper half
    have e : x % ((P + P : Nat) : Int) = x + ((P + P : Nat) : Int) := by
      rw [← Int.add_mul_emod_self_left x ((P + P : Nat) : Int) 1, Int.mul_one, Int.emod_eq_of_lt (by omega) (by omega)]
    rw [e]
    have : ¬ (x + ((P + P : Nat) : Int)).toNat < P := by omega
    simp only [this, if_false]; omega

theorem wrapS_small (ib d : Nat) (hib : 1 ≤ ib) (h : d < 2 ^ (ib - 1)) : wrapS ib (d : Int) = d :=
  wrapS_of_range ib hib d (by omega) (by exact_mod_cast h)

/-- the forms in which the `uint8` / `int8` counters of the bit readers are updated: an `Int` expression that is a small natural number -/
theorem wrapU_of_eq (ib : Nat) (x : Int) (m : Nat) (h : x = m) (hm : m < 2 ^ ib) : wrapU ib x = m :=
  h ▸ wrapU_small ib m hm

theorem wrapS_of_eq (ib : Nat) (x : Int) (m : Nat) (hib : 1 ≤ ib) (h : x = m) (hm : m < 2 ^ (ib - 1)) : wrapS ib x = m :=
  h ▸ wrapS_small ib m hib hm

theorem wrapU_congr (bits : Nat) (a b : Int) (h : a % ((2 ^ bits : Nat) : Int) = b % ((2 ^ bits : Nat) : Int)) :
    wrapU bits a = wrapU bits b := by
  unfold wrapU; rw [h]

theorem wrapS_mod (bits : Nat) (x : Int) : wrapS bits x % ((2 ^ bits : Nat) : Int) = x % ((2 ^ bits : Nat) : Int) := by
  have hM : (0 : Int) < ((2 ^ bits : Nat) : Int) := by exact_mod_cast Nat.two_pow_pos bits
  have h1 := Int.emod_nonneg x (Int.ne_of_gt hM)
  unfold wrapS wrapU
  simp only [Int.toNat_of_nonneg h1]
  split
  · exact Int.emod_emod_of_dvd x (Int.dvd_refl _)
  · rw [Int.sub_emod, Int.emod_self, Int.sub_zero, Int.emod_emod_of_dvd _ (Int.dvd_refl _), Int.emod_emod_of_dvd _ (Int.dvd_refl _)]

theorem wrapS64_mod (bits : Nat) (hb : bits ≤ 64) (x : Int) :
    wrapS 64 x % ((2 ^ bits : Nat) : Int) = x % ((2 ^ bits : Nat) : Int) := by
  have hd : (((2 ^ bits : Nat) : Int)) ∣ (((2 ^ 64 : Nat) : Int)) := by
    have : (2 : Nat) ^ bits ∣ 2 ^ 64 := Nat.pow_dvd_pow 2 hb
    exact_mod_cast this
  rw [← Int.emod_emod_of_dvd (wrapS 64 x) hd, wrapS_mod, Int.emod_emod_of_dvd x hd]

end PqV.Impl
