import PqV.Lemmas.KBitpacked
import PqV.Spec.Plain
/-! Kernel refinements for PLAIN values: `read_bitpacked1` / `read_plain_boolean`, `unpack_byte_array`,
and the writer's boolean packing (`convert`, bool branch: pad, reshape, packbits). -/
namespace PqV.Impl
open PqV.Spec

theorem bp1_bytes (buf : List Nat) (ip : Nat) : ∀ (k i : Nat) (acc : List Nat), ip + i + k ≤ buf.length →
    readBitpacked1.bytes buf ip k i acc = .ok (acc ++ (buf.drop (ip + i)).take k) := by
  intro k
  induction k with
  | zero => intro i acc _; simp [readBitpacked1.bytes]
  | succ k ih =>
    intro i acc h
    have hlt : ip + i < buf.length := by omega
    simp only [readBitpacked1.bytes, rd_ok buf (ip + i) hlt, bind, Except.bind]
    rw [ih (i + 1) (acc ++ [buf[ip + i]]) (by omega)]
    congr 1
    rw [List.append_assoc]
    congr 1
    have : buf.drop (ip + i) = buf[ip + i] :: buf.drop (ip + (i + 1)) := by
      rw [← Nat.add_assoc]; exact List.drop_eq_getElem_cons hlt
    rw [this, List.take_succ_cons]
    rfl

/-- **`read_bitpacked1` refines the specification**: with room for `count` items and the
    `⌈count/8⌉` bytes present, the kernel appends exactly the first `count` bits (LSB first) of the
    byte stream and advances the input by `⌈count/8⌉`. -/
theorem readBitpacked1_refines (buf : List Nat) (hbytes : ∀ b ∈ buf, b < 256) (ip count : Nat) (o : Out)
    (hcap : count ≤ o.cap) (hlen : ip + (count + 7) / 8 ≤ buf.length) :
    readBitpacked1 buf ip count o
      = .ok ({ items := o.items ++ unpackNat 1 count (streamOf buf ip), cap := o.cap - count }, ip + (count + 7) / 8) := by
  have hc : ¬ (count > o.cap) := by omega
  have hnb : count / 8 + (if count % 8 = 0 then 0 else 1) = (count + 7) / 8 := by split <;> omega
  simp only [readBitpacked1, hc, if_false, hnb]
  rw [bp1_bytes buf ip _ 0 [] (by omega)]
  simp only [bind, Except.bind, List.nil_append, Nat.add_zero]
  congr 3
  simp only [unpackNat]
  congr 1
  apply List.map_congr_left
  intro j hj
  have hj' : j < count := by simpa using hj
  have hL : j / 8 < (count + 7) / 8 := by omega
  have hlt : ip + j / 8 < buf.length := by omega
  have hget : ((buf.drop ip).take ((count + 7) / 8)).getD (j / 8) 0 = buf[ip + j / 8] := by
    rw [List.getD_eq_getElem?_getD, List.getElem?_take, if_pos hL, List.getElem?_drop,
      List.getElem?_eq_getElem hlt]
    rfl
  rw [hget, ← stream_byte buf hbytes ip (j / 8) hlt, show (1 : Nat) = 2 ^ 1 - 1 from rfl, shiftRight_and_mask, window_window _ _ _ _ _ (by omega),
    show 8 * (j / 8) + j % 8 = j * 1 by omega]
  rfl

/-- **PLAIN booleans through the kernel**: what the specification packs, `read_plain_boolean` unpacks -/
theorem readPlainBoolean_roundtrip (bits tail : List Nat) (hb : ∀ v ∈ bits, v < 2) (ht : ∀ b ∈ tail, b < 256) :
    readPlainBoolean (packLE 1 bits ++ tail) bits.length = .ok bits := by
  have hbytes : ∀ b ∈ packLE 1 bits ++ tail, b < 256 := List.forall_mem_append.2 ⟨leBytes_lt _ _, ht⟩
  have hlen : 0 + (bits.length + 7) / 8 ≤ (packLE 1 bits ++ tail).length := by
    rw [List.length_append, packLE_length]; simp
  simp only [readPlainBoolean]
  rw [readBitpacked1_refines _ hbytes 0 bits.length { items := [], cap := bits.length } (Nat.le_refl _) hlen]
  simp only [bind, Except.bind, List.nil_append]
  rw [List.take_of_length_le (by simp [unpackNat])]
  exact congrArg Except.ok (unpackLE_packLE_append 1 bits tail (by simpa using hb))

theorem unpackByteArray_at (items : List (List Nat)) (hl : ∀ it ∈ items, it.length < 2 ^ 31) :
    ∀ (raw : List Nat) (pos : Nat), At raw pos (packByteArray items) → unpackByteArray raw pos items.length = .ok items := by
  induction items with
  | nil => intro raw pos _; rfl
  | cons it rest ih =>
    intro raw pos h
    have hit : it.length < 2 ^ 31 := hl it List.mem_cons_self
    have h : At raw pos (leBytes 4 it.length ++ it ++ packByteArray rest) := by simpa [packByteArray] using h
    have h4 := h.left.left.drop_take
    have hi := h.left.right.drop_take
    have hr := h.right
    have hlen := h.left.length_le
    simp only [List.length_append, leBytes_length, ← Nat.add_assoc] at h4 hi hr hlen
    have hval : leNat (leBytes 4 it.length) = it.length := leNat_leBytes_lt (Nat.lt_trans hit (by decide))
    have c1 : ¬ (raw.length ≤ pos) := by omega
    have c2 : ¬ (raw.length < pos + 4) := by omega
    have c3 : ¬ (it.length ≥ 2 ^ 31) := by omega
    have c4 : ¬ (raw.length < pos + 4 + it.length) := by omega
    simp only [List.length_cons, unpackByteArray, c1, c2, if_false, h4, hval, c3, c4,
      ih (fun x hx => hl x (List.mem_cons_of_mem _ hx)) raw _ hr, bind, Except.bind, hi]

/-- **`unpack_byte_array` inverts `pack_byte_array`** at any position of a buffer, whatever follows:
    every item shorter than 2^31 bytes (the kernel's `int32` length) comes back, in order. -/
theorem unpackByteArray_roundtrip (items : List (List Nat)) (hl : ∀ it ∈ items, it.length < 2 ^ 31) :
    ∀ (pre tail : List Nat),
      unpackByteArray (pre ++ packByteArray items ++ tail) pre.length items.length = .ok items := fun pre tail =>
  unpackByteArray_at items hl _ _ (at_mid pre _ tail)

theorem foldl_bits (f : Nat → Nat) (x m : Nat) (h : ∀ j, j < m → f j = 2 ^ j * (x / 2 ^ j % 2)) :
    (List.range m).foldl (fun acc j => acc + f j) 0 = x % 2 ^ m := by
  induction m with
  | zero => simp [Nat.mod_one]
  | succ m ih =>
    rw [List.range_succ, List.foldl_append, ih (fun j hj => h j (Nat.lt_succ_of_lt hj)), Nat.mod_pow_succ, ← h m (Nat.lt_succ_self m)]
    rfl

theorem ite_bit (b j : Nat) (h : b < 2) : (if b ≠ 0 then 2 ^ j else 0) = 2 ^ j * b := by
  have : b = 0 ∨ b = 1 := by omega
  rcases this with rfl | rfl <;> simp

theorem padded_length_mod8 (vals : List Nat) : (vals ++ List.replicate (8 - vals.length % 8) 0).length % 8 = 0 := by
  rw [List.length_append, List.length_replicate]; omega

theorem writerPackBools_length (vals : List Nat) :
    (writerPackBools vals).length = (vals ++ List.replicate (8 - vals.length % 8) 0).length / 8 := by
  simp only [writerPackBools, List.length_map, List.length_range]

/-- `convert` pads with `8 - n % 8` zeros: a whole extra zero byte when `n` is a multiple of 8. -/
theorem writerPackBools_eq (vals : List Nat) (hb : ∀ v ∈ vals, v < 2) :
    writerPackBools vals = packLE 1 (vals ++ List.replicate (8 - vals.length % 8) 0) := by
  set P := vals ++ List.replicate (8 - vals.length % 8) 0 with hP
  have hPb : ∀ v ∈ P, v < 2 := lt_of_mem_append_zeros hb (by decide) _
  have hm : P.length % 8 = 0 := padded_length_mod8 vals
  have hk : (P.length * 1 + 7) / 8 = P.length / 8 := by omega
  simp only [writerPackBools, ← hP, packLE, hk]
  apply List.ext_getElem
  · simp [leBytes_length]
  · intro g h1 h2
    have hg : g < P.length / 8 := by simpa using h1
    rw [leBytes_getElem _ _ g hg, List.getElem_map, List.getElem_range, ← pow256]
    -- bit `j` of byte `g` of the packed stream is value `g * 8 + j`
    refine foldl_bits _ _ 8 (fun j hj => ?_)
    have hi : g * 8 + j < P.length := by omega
    have hv := hPb P[g * 8 + j] (List.getElem_mem hi)
    have hbit : packNat 1 P / 2 ^ (g * 8) / 2 ^ j % 2 = P[g * 8 + j] := by
      have := bitField_packNat 1 P (g * 8 + j) hi
      rw [bitField, Nat.mul_one, Nat.pow_one, Nat.pow_add, ← Nat.div_div_eq_div_mul] at this
      rw [this]; exact Nat.mod_eq_of_lt hv
    rw [hbit, List.getD_eq_getElem?_getD, List.getElem?_eq_getElem hi, Option.getD_some, ite_bit _ j hv]

theorem widthFor_step (n : Nat) (h : 1 ≤ n) : widthFor n = widthFor (n / 2) + 1 := by
  obtain ⟨k, rfl⟩ : ∃ k, n = k + 1 := ⟨n - 1, by omega⟩
  simp only [widthFor]
  by_cases h2 : 2 ≤ k + 1
  · rw [Nat.log2_def, if_pos h2]
    obtain ⟨j, hj⟩ : ∃ j, (k + 1) / 2 = j + 1 := ⟨(k + 1) / 2 - 1, by omega⟩
    rw [hj]
  · have : k = 0 := by omega
    subst this
    simp [Nat.log2_def]

theorem widthLoop_eq : ∀ (f i n : Nat), n < 2 ^ f → widthLoop (f + 1) i (n : Int) = i + widthFor n := by
  intro f
  induction f with
  | zero =>
    intro i n hn
    have : n = 0 := by simpa using hn
    subst this; simp [widthLoop, widthFor]
  | succ f ih =>
    intro i n hn
    by_cases h0 : n = 0
    · subst h0; simp [widthLoop, widthFor]
    · have hne : ¬ ((n : Int) = 0) := by exact_mod_cast h0
      have hdiv : ((n : Int) / 2) = ((n / 2 : Nat) : Int) := by simp
      have hlt : n / 2 < 2 ^ f := by
        rw [Nat.pow_succ] at hn; omega
      conv => lhs; unfold widthLoop
      simp only [hne, if_false, hdiv]
      rw [ih (i + 1) (n / 2) hlt, widthFor_step n (by omega)]
      omega

end PqV.Impl
