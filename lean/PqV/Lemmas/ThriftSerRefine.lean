import PqV.Impl.ThriftSer
import PqV.Lemmas.Thrift
import PqV.Lemmas.KVarint
namespace PqV.Impl.ThriftSer
open PqV.Impl PqV.Spec

def okInt (n : Int) : Bool := decide (-(2 ^ 63 : Int) ≤ n) && decide (n < (2 ^ 63 : Int))

/-! the IDL-level value a Python-side structure stands for, computed with the same recursion as the
    serialiser; `none` where the serialiser departs from the protocol or the value is out of range
    (empty lists, heterogeneous lists, integers beyond int64; `None` holes are simply skipped) -/
mutual
  def specFields : Nat → Marker → List (Nat × PyT) → Nat → Nat → Option (List (Nat × TVal))
    | 0, _, _, _, _ => Option.none
    | _ + 1, _, _, 0, _ => some []
    | fuel + 1, m, entries, steps + 1, i =>
      match lookup entries i with
      | Option.none => specFields fuel m entries steps (i + 1)
      | some PyT.none => specFields fuel m entries steps (i + 1)
      | some v =>
        let tv : Option TVal :=
          match v with
          | .bool b => some (TVal.bool b)
          | .int n => if okInt n then some (if isI32 m i then TVal.i32 n else TVal.i64 n) else Option.none
          | .float bits => if bits < 2 ^ 64 then some (TVal.double bits) else Option.none
          | .bytes bs => if bs.length < 2 ^ 64 then some (TVal.binary bs) else Option.none
          | .str bs => if bs.length < 2 ^ 64 then some (TVal.binary bs) else Option.none
          | .list items => specList fuel items
          | .dict m' es => (specThrift fuel m' es).map TVal.struct
          | .none => Option.none
        match tv, specFields fuel m entries steps (i + 1) with
        | some t, some r => some ((i, t) :: r)
        | _, _ => Option.none
  def specThrift : Nat → Marker → List (Nat × PyT) → Option (List (Nat × TVal))
    | 0, _, _ => Option.none
    | fuel + 1, m, entries =>
      specFields fuel m entries (PqV.Gen.Specs.loopHi - PqV.Gen.Specs.loopLo) PqV.Gen.Specs.loopLo
  def specList : Nat → List PyT → Option TVal
    | 0, _ => Option.none
    | _ + 1, [] => Option.none
    | fuel + 1, first :: rest =>
      let kind : Nat := match first with | .int _ => 0 | .bytes _ => 1 | .str _ => 1 | _ => 2
      let ty : Nat := match kind with | 0 => 5 | 1 => 8 | _ => 12
      if (first :: rest).length < 2 ^ 64 then (specListItems fuel kind (first :: rest)).map (TVal.list ty) else Option.none
  def specListItems : Nat → Nat → List PyT → Option (List TVal)
    | 0, _, _ => Option.none
    | _ + 1, _, [] => some []
    | fuel + 1, kind, v :: vs =>
      let item : Option TVal :=
        match kind, v with
        | 0, .int n => if okInt n then some (TVal.i32 n) else Option.none
        | 1, .bytes bs => if bs.length < 2 ^ 64 then some (TVal.binary bs) else Option.none
        | 1, .str bs => if bs.length < 2 ^ 64 then some (TVal.binary bs) else Option.none
        | 2, .dict m es => (specThrift fuel m es).map TVal.struct
        | _, _ => Option.none
      match item, specListItems fuel kind vs with
      | some a, some b => some (a :: b)
      | _, _ => Option.none
end

/-! the shape of what `to_bytes` emits: field ids inside the serialiser's loop range, only
    bool / i32 / i64 / double / binary / list / struct values, non-empty lists of i32 / binary / struct -/
mutual
  def canon : TVal → Bool
    | .bool _ => true
    | .i32 n => okInt n
    | .i64 n => okInt n
    | .double b => decide (b < 2 ^ 64)
    | .binary bs => decide (bs.length < 2 ^ 64)
    | .list ety items => decide (items ≠ []) && decide (items.length < 2 ^ 64) && canonItems ety items
    | .struct fs => canonFields 0 fs
    | .i8 _ => false
    | .i16 _ => false
  def canonItems (ety : Nat) : List TVal → Bool
    | [] => true
    | v :: vs =>
      (match v with
        | .i32 n => decide (ety = 5) && okInt n
        | .binary bs => decide (ety = 8) && decide (bs.length < 2 ^ 64)
        | .struct fs => decide (ety = 12) && canonFields 0 fs
        | _ => false) && canonItems ety vs
  def canonFields (prev : Nat) : List (Nat × TVal) → Bool
    | [] => true
    | (id, v) :: rest => decide (prev < id) && decide (id < PqV.Gen.Specs.loopHi) && canon v && canonFields id rest
end

theorem loopHi_le : PqV.Gen.Specs.loopHi ≤ 16 := by decide

theorem canonFields_cons {prev id : Nat} {v : TVal} {rest : List (Nat × TVal)} :
    canonFields prev ((id, v) :: rest) = true ↔
      (prev < id ∧ id < PqV.Gen.Specs.loopHi) ∧ canon v = true ∧ canonFields id rest = true := by
  simp only [canonFields, Bool.and_eq_true, decide_eq_true_eq, and_assoc]

theorem okInt_iff {n : Int} : okInt n = true ↔ -(2 ^ 63 : Int) ≤ n ∧ n < (2 ^ 63 : Int) := by
  simp only [okInt, Bool.and_eq_true, decide_eq_true_eq]

theorem enc_int {n : Int} (h : okInt n = true) : encodeUvarint (longZigzag n) = uvarintEnc (zigzagEnc n) := by
  rw [longZigzag_eq n (okInt_iff.mp h), encodeUvarint_eq _ (zigzagEnc_lt64 n (okInt_iff.mp h))]

theorem or_low (ty l : Nat) (h : ty < 16) : ty ||| (l * 16) = l * 16 + ty := by
  rw [show l * 16 = l <<< 4 by rw [Nat.shiftLeft_eq], or_shiftLeft ty l 4 h, Nat.shiftLeft_eq]
  omega

def kindOf (first : PyT) : Nat := match first with | .int _ => 0 | .bytes _ => 1 | .str _ => 1 | _ => 2
def tyOf (kind : Nat) : Nat := match kind with | 0 => 5 | 1 => 8 | _ => 12

theorem tyOf_lt (k : Nat) : tyOf k < 16 := by
  unfold tyOf; split <;> norm_num

theorem writeList_eq (fuel : Nat) (first : PyT) (rest : List PyT) :
    writeList (fuel + 1) (first :: rest) =
      (writeListItems fuel (kindOf first) (first :: rest)).map
        ((if (first :: rest).length > PqV.Gen.Specs.listShortMax then [(tyOf (kindOf first) ||| 0xF0)] ++ encodeUvarint (first :: rest).length
          else [(tyOf (kindOf first) ||| ((first :: rest).length * 16)) % 256]) ++ ·) := by
  cases first <;> rfl

theorem specList_eq (fuel : Nat) (first : PyT) (rest : List PyT) :
    specList (fuel + 1) (first :: rest) =
      if (first :: rest).length < 2 ^ 64 then (specListItems fuel (kindOf first) (first :: rest)).map (TVal.list (tyOf (kindOf first)))
      else Option.none := by
  cases first <;> rfl

theorem listHdr_eq {ty l : Nat} (hty : ty < 16) (hl : l < 2 ^ 64) :
    (if l > PqV.Gen.Specs.listShortMax then [ty ||| 0xF0] ++ encodeUvarint l else [(ty ||| l * 16) % 256]) =
      if l < 15 then [l * 16 + ty] else (0xF0 + ty) :: uvarintEnc l := by
  have hmax : PqV.Gen.Specs.listShortMax = 14 := rfl
  by_cases h15 : l < 15
  · rw [if_neg (by omega), if_pos h15, or_low ty l hty, Nat.mod_eq_of_lt (by omega)]
  · rw [if_pos (by omega), if_neg h15, show (0xF0 : Nat) = 15 * 16 from rfl, or_low ty 15 hty, encodeUvarint_eq _ hl,
      Nat.add_comm]
    rfl

theorem ty_match_lt (first : PyT) :
    (match (match first with | .int _ => 0 | .bytes _ => 1 | .str _ => 1 | _ => 2 : Nat) with | 0 => 5 | 1 => 8 | _ => 12 : Nat) < 16 :=
  tyOf_lt (kindOf first)

/-- the IDL-level value of one populated field (`is32`: the field is marked 32-bit) -/
def specVal (fuel : Nat) (is32 : Bool) : PyT → Option TVal
  | .bool b => some (TVal.bool b)
  | .int n => if okInt n then some (if is32 then TVal.i32 n else TVal.i64 n) else Option.none
  | .float bits => if bits < 2 ^ 64 then some (TVal.double bits) else Option.none
  | .bytes bs => if bs.length < 2 ^ 64 then some (TVal.binary bs) else Option.none
  | .str bs => if bs.length < 2 ^ 64 then some (TVal.binary bs) else Option.none
  | .list items => specList fuel items
  | .dict m' es => (specThrift fuel m' es).map TVal.struct
  | .none => Option.none

/-- type nibble and value bytes the serialiser emits for one populated field -/
def writeVal (fuel : Nat) (is32 : Bool) : PyT → Option (Nat × List Nat)
  | .bool true => some (1, [])
  | .bool false => some (2, [])
  | .int n => some (if is32 then 5 else 6, encodeUvarint (longZigzag n))
  | .float bits => some (7, leBytes 8 bits)
  | .bytes bs => some (8, encodeUvarint bs.length ++ bs)
  | .str bs => some (8, encodeUvarint bs.length ++ bs)
  | .list items => (writeList fuel items).map (9, ·)
  | .dict m' es => (writeThrift fuel m' es).map (12, ·)
  | .none => Option.none

theorem specFields_absent {f : Nat} {m : Marker} {es : List (Nat × PyT)} {s i : Nat}
    (h : lookup es i = Option.none ∨ lookup es i = some PyT.none) :
    specFields (f + 1) m es (s + 1) i = specFields f m es s (i + 1) := by
  rcases h with h | h <;> simp only [specFields, h]

theorem specFields_present {f : Nat} {m : Marker} {es : List (Nat × PyT)} {s i : Nat} {v : PyT}
    (h : lookup es i = some v) (hv : v ≠ PyT.none) :
    specFields (f + 1) m es (s + 1) i =
      match specVal f (isI32 m i) v, specFields f m es s (i + 1) with
      | some t, some r => some ((i, t) :: r)
      | _, _ => Option.none := by
  cases v <;> first | exact absurd rfl hv | (simp only [specFields, h]; rfl)

theorem writeFields_absent {f : Nat} {m : Marker} {es : List (Nat × PyT)} {s i prev : Nat}
    (h : lookup es i = Option.none ∨ lookup es i = some PyT.none) :
    writeFields (f + 1) m es (s + 1) i prev = writeFields f m es s (i + 1) prev := by
  rcases h with h | h <;> simp only [writeFields, h]

theorem writeFields_present {f : Nat} {m : Marker} {es : List (Nat × PyT)} {s i prev : Nat} {v : PyT}
    (h : lookup es i = some v) (hv : v ≠ PyT.none) :
    writeFields (f + 1) m es (s + 1) i prev =
      match writeVal f (isI32 m i) v, writeFields f m es s (i + 1) i with
      | some (ty, b), some r => some (((i - prev) * 16 + ty) % 256 :: (b ++ r))
      | _, _ => Option.none := by
  cases v with
  | none => exact absurd rfl hv
  | bool b => cases b <;> (simp only [writeFields, h]; cases writeFields f m es s (i + 1) i <;> rfl)
  | list l => simp only [writeFields, h, writeVal]; cases writeList f l <;> cases writeFields f m es s (i + 1) i <;> rfl
  | dict m' es' => simp only [writeFields, h, writeVal]; cases writeThrift f m' es' <;> cases writeFields f m es s (i + 1) i <;> rfl
  | _ => simp only [writeFields, h]; cases writeFields f m es s (i + 1) i <;> rfl

/-- the IDL-level value of one list item, for the list kind the first item fixed -/
def specItem (fuel kind : Nat) (v : PyT) : Option TVal :=
  match kind, v with
  | 0, .int n => if okInt n then some (TVal.i32 n) else Option.none
  | 1, .bytes bs => if bs.length < 2 ^ 64 then some (TVal.binary bs) else Option.none
  | 1, .str bs => if bs.length < 2 ^ 64 then some (TVal.binary bs) else Option.none
  | 2, .dict m es => (specThrift fuel m es).map TVal.struct
  | _, _ => Option.none

def writeItem (fuel kind : Nat) (v : PyT) : Option (List Nat) :=
  match kind, v with
  | 0, .int n => some (encodeUvarint (longZigzag n))
  | 1, .bytes bs => some (encodeUvarint bs.length ++ bs)
  | 1, .str bs => some (encodeUvarint bs.length ++ bs)
  | 2, .dict m es => writeThrift fuel m es
  | _, _ => Option.none

theorem specListItems_cons (f kind : Nat) (v : PyT) (vs : List PyT) :
    specListItems (f + 1) kind (v :: vs) =
      match specItem f kind v, specListItems f kind vs with
      | some a, some b => some (a :: b)
      | _, _ => Option.none := rfl

theorem writeListItems_cons (f kind : Nat) (v : PyT) (vs : List PyT) :
    writeListItems (f + 1) kind (v :: vs) =
      match writeItem f kind v, writeListItems f kind vs with
      | some a, some b => some (a ++ b)
      | _, _ => Option.none := rfl

theorem specVal_sound {f : Nat} {b : Bool} {v : PyT} {t : TVal}
    (hL : ∀ items t, specList f items = some t →
      writeList f items = some (encVal t) ∧ canon t = true ∧ t.wireType = 9)
    (hT : ∀ m es fs, specThrift f m es = some fs → writeThrift f m es = some (encFields 0 fs) ∧ canonFields 0 fs = true)
    (h : specVal f b v = some t) : writeVal f b v = some (t.wireType, encVal t) ∧ canon t = true := by
  cases v with
  | none => cases h
  | bool c => cases h; cases c <;> exact ⟨rfl, rfl⟩
  | int n =>
    simp only [specVal, Option.ite_none_right_eq_some, Option.some.injEq] at h
    obtain ⟨hok, rfl⟩ := h
    cases b <;> simp [writeVal, enc_int hok, TVal.wireType, encVal, canon, hok]
  | float bits =>
    simp only [specVal, Option.ite_none_right_eq_some, Option.some.injEq] at h
    obtain ⟨hb, rfl⟩ := h
    simpa [writeVal, TVal.wireType, encVal, canon] using hb
  | bytes bs | str bs =>
    simp only [specVal, Option.ite_none_right_eq_some, Option.some.injEq] at h
    obtain ⟨hb, rfl⟩ := h
    simpa [writeVal, TVal.wireType, encVal, canon, encodeUvarint_eq _ hb] using hb
  | list items =>
    obtain ⟨hw, hc, hwt⟩ := hL items t h
    simp [writeVal, hw, hc, hwt]
  | dict m es =>
    simp only [specVal, Option.map_eq_some_iff] at h
    obtain ⟨fs, hfs, rfl⟩ := h
    obtain ⟨hw, hc⟩ := hT m es fs hfs
    simp [writeVal, hw, hc, TVal.wireType, encVal, canon]

theorem specItem_sound {f kind : Nat} {v : PyT} {a : TVal}
    (hT : ∀ m es fs, specThrift f m es = some fs → writeThrift f m es = some (encFields 0 fs) ∧ canonFields 0 fs = true)
    (h : specItem f kind v = some a) :
    ∃ w, writeItem f kind v = some w ∧ ∀ ts, encItems (a :: ts) = w ++ encItems ts ∧
      canonItems (tyOf kind) (a :: ts) = canonItems (tyOf kind) ts := by
  unfold specItem at h
  split at h
  · obtain ⟨hok, h⟩ := Option.ite_none_right_eq_some.mp h
    cases h
    exact ⟨_, rfl, fun ts => by simp [encItems, encVal, enc_int hok, canonItems, tyOf, hok]⟩
  · obtain ⟨hb, h⟩ := Option.ite_none_right_eq_some.mp h
    cases h
    exact ⟨_, rfl, fun ts => by simp [encItems, encVal, encodeUvarint_eq _ hb, canonItems, tyOf]; exact fun _ => hb⟩
  · obtain ⟨hb, h⟩ := Option.ite_none_right_eq_some.mp h
    cases h
    exact ⟨_, rfl, fun ts => by simp [encItems, encVal, encodeUvarint_eq _ hb, canonItems, tyOf]; exact fun _ => hb⟩
  · rw [Option.map_eq_some_iff] at h
    obtain ⟨fs, hfs, rfl⟩ := h
    obtain ⟨hw, hc⟩ := hT _ _ fs hfs
    exact ⟨_, hw, fun ts => by simp [encItems, encVal, canonItems, tyOf, hc]⟩
  · cases h

/-- the serialiser refines the specification encoder: wherever the translation to an IDL-level
    value is defined, each of the four serialiser functions emits the specification encoding of that
    value, and the value is canonical -/
theorem spec_sound : ∀ (fuel : Nat),
    (∀ m es steps i prev fs, specFields fuel m es steps i = some fs → prev < i → i + steps ≤ PqV.Gen.Specs.loopHi →
        writeFields fuel m es steps i prev = some (encFields prev fs) ∧ canonFields prev fs = true) ∧
    (∀ m es fs, specThrift fuel m es = some fs →
        writeThrift fuel m es = some (encFields 0 fs) ∧ canonFields 0 fs = true) ∧
    (∀ items t, specList fuel items = some t →
        writeList fuel items = some (encVal t) ∧ canon t = true ∧ t.wireType = 9) ∧
    (∀ kind items ts, specListItems fuel kind items = some ts →
        writeListItems fuel kind items = some (encItems ts) ∧ canonItems (tyOf kind) ts = true ∧
        ts.length = items.length) := by
  intro fuel
  induction fuel with
  | zero =>
    refine ⟨?_, ?_, ?_, ?_⟩
    · intro m es steps i prev fs h; simp [specFields] at h
    · intro m es fs h; simp [specThrift] at h
    · intro items t h; simp [specList] at h
    · intro kind items ts h; simp [specListItems] at h
  | succ f ih =>
    obtain ⟨ihF, ihT, ihL, ihI⟩ := ih
    refine ⟨?_, ?_, ?_, ?_⟩
    · intro m es steps i prev fs h hprev hhi
      cases steps with
      | zero => simp only [specFields, Option.some.injEq] at h; subst h; exact ⟨rfl, rfl⟩
      | succ s =>
        by_cases hab : lookup es i = Option.none ∨ lookup es i = some PyT.none
        · rw [specFields_absent hab] at h
          rw [writeFields_absent hab]
          exact ihF m es s (i + 1) prev fs h (by omega) (by omega)
        · obtain ⟨v, hv, hne⟩ : ∃ v, lookup es i = some v ∧ v ≠ PyT.none := by
            cases hl : lookup es i with
            | none => exact absurd (Or.inl hl) hab
            | some v => exact ⟨v, rfl, fun e => hab (Or.inr (by rw [hl, e]))⟩
          rw [specFields_present hv hne] at h
          split at h
          · rename_i t r ht hr
            cases h
            obtain ⟨hw, hc⟩ := specVal_sound ihL ihT ht
            obtain ⟨hwr, hcr⟩ := ihF m es s (i + 1) i r hr (by omega) (by omega)
            have hlt := (wireType_lt t).1
            have hhi' := loopHi_le
            rw [writeFields_present hv hne, hw, hwr]
            refine ⟨?_, canonFields_cons.mpr ⟨⟨hprev, by omega⟩, hc, hcr⟩⟩
            -- the loop stays below `loopHi ≤ 16`: the id delta fits the header's high nibble (always the short form),
            -- and the `% 256` of `write_byte` does nothing
            simp only [encFields_cons_short hprev (by omega)]
            rw [Nat.mod_eq_of_lt (by omega)]
          · cases h
    · intro m es fs h
      simp only [specThrift] at h
      simp only [writeThrift]
      exact ihF m es _ _ 0 fs h (by decide) (by decide)
    · intro items t h
      cases items with
      | nil => simp [specList] at h
      | cons first rest =>
        rw [specList_eq] at h
        rw [writeList_eq]
        split at h
        · rename_i hlen
          rw [Option.map_eq_some_iff] at h
          obtain ⟨its, hi, rfl⟩ := h
          obtain ⟨hw, hc, hl⟩ := ihI _ _ its hi
          refine ⟨?_, ?_, rfl⟩
          · rw [hw, Option.map_some, encVal, hl, listHdr_eq (tyOf_lt _) hlen]
          · have hne : its ≠ [] := by intro e; rw [e] at hl; simp at hl
            simp only [canon, Bool.and_eq_true, decide_eq_true_eq]
            exact ⟨⟨hne, by rw [hl]; exact hlen⟩, hc⟩
        · cases h
    · intro kind items ts h
      cases items with
      | nil => simp only [specListItems, Option.some.injEq] at h; subst h; exact ⟨rfl, rfl, rfl⟩
      | cons v vs =>
        rw [specListItems_cons] at h
        split at h
        · rename_i a b ha hb
          cases h
          obtain ⟨w, hw, hab⟩ := specItem_sound ihT ha
          obtain ⟨hwr, hcr, hl⟩ := ihI kind vs b hb
          rw [writeListItems_cons, hw, hwr, (hab b).1, (hab b).2, List.length_cons, hl]
          exact ⟨rfl, hcr, rfl⟩
        · cases h

theorem canonItems_cons {ety : Nat} {v : TVal} {vs : List TVal} (h : canonItems ety (v :: vs) = true) :
    ((∃ n, v = .i32 n ∧ ety = 5 ∧ okInt n = true) ∨ (∃ bs, v = .binary bs ∧ ety = 8 ∧ bs.length < 2 ^ 64) ∨
      (∃ fs, v = .struct fs ∧ ety = 12 ∧ canonFields 0 fs = true)) ∧ canonItems ety vs = true := by
  cases v <;> simp only [canonItems, Bool.and_eq_true, decide_eq_true_eq, Bool.false_and, Bool.false_eq_true] at h
  · exact ⟨.inl ⟨_, rfl, h.1⟩, h.2⟩
  · exact ⟨.inr (.inl ⟨_, rfl, h.1⟩), h.2⟩
  · exact ⟨.inr (.inr ⟨_, rfl, h.1⟩), h.2⟩

theorem canon_list {ety : Nat} {items : List TVal} (h : canon (.list ety items) = true) :
    ety < 16 ∧ items ≠ [] ∧ items.length < 2 ^ 64 ∧ canonItems ety items = true := by
  simp only [canon, Bool.and_eq_true, decide_eq_true_eq] at h
  obtain ⟨⟨hne, hlen⟩, hitems⟩ := h
  refine ⟨?_, hne, hlen, hitems⟩
  cases items with
  | nil => exact absurd rfl hne
  | cons v vs => obtain ⟨⟨_, _, rfl, _⟩ | ⟨_, _, rfl, _⟩ | ⟨_, _, rfl, _⟩, _⟩ := canonItems_cons hitems <;> decide

mutual
  theorem canon_ok : ∀ (v : TVal), canon v = true → v.ok = true
    | .bool _, _ => rfl
    | .i32 _, _ => rfl
    | .i64 _, _ => rfl
    | .binary _, _ => rfl
    | .double _, h => by simpa [canon, TVal.ok] using h
    | .list ety items, h => by
      obtain ⟨hety, _, _, hitems⟩ := canon_list h
      simp only [TVal.ok, Bool.and_eq_true, decide_eq_true_eq]
      exact ⟨hety, canonItems_ok ety items hitems⟩
    | .struct fs, h => by
      simp only [canon] at h
      simpa only [TVal.ok] using canonFields_ok fs 0 h
    | .i8 _, h | .i16 _, h => by simp [canon] at h
  theorem canonItems_ok (ety : Nat) : ∀ (items : List TVal), canonItems ety items = true → itemsOk ety items = true
    | [], _ => rfl
    | v :: vs, h => by
      -- by cases on `v` itself, so that the recursion stays structural
      cases v with
      | i32 n =>
        obtain ⟨⟨rfl, _⟩, hvs⟩ : (ety = 5 ∧ _) ∧ _ := by simpa [canonItems] using h
        simp [itemsOk, elemType, TVal.wireType, TVal.ok, canonItems_ok 5 vs hvs]
      | binary bs =>
        obtain ⟨⟨rfl, _⟩, hvs⟩ : (ety = 8 ∧ _) ∧ _ := by simpa [canonItems] using h
        simp [itemsOk, elemType, TVal.wireType, TVal.ok, canonItems_ok 8 vs hvs]
      | struct fs =>
        obtain ⟨⟨rfl, hfs⟩, hvs⟩ : (ety = 12 ∧ _) ∧ _ := by simpa [canonItems] using h
        simp [itemsOk, elemType, TVal.wireType, TVal.ok, canonItems_ok 12 vs hvs, canonFields_ok fs 0 hfs]
      | _ => simp [canonItems] at h
  theorem canonFields_ok : ∀ (fs : List (Nat × TVal)) (prev : Nat), canonFields prev fs = true → fieldsOk prev fs = true
    | [], _, _ => rfl
    | (id, v) :: rest, prev, h => by
      simp only [canonFields, Bool.and_eq_true, decide_eq_true_eq] at h
      simp only [fieldsOk, Bool.and_eq_true, decide_eq_true_eq]
      exact ⟨⟨h.1.1.1, canon_ok v h.1.2⟩, canonFields_ok rest id h.2⟩
end

theorem toBytes_spec {m : Marker} {es : List (Nat × PyT)} {fs : List (Nat × TVal)}
    (h : specThrift ((PyT.dict m es).weight + 2) m es = some fs) :
    toBytes (.dict m es) = some (encFields 0 fs) ∧ canonFields 0 fs = true :=
  (spec_sound _).2.1 m es fs h

end PqV.Impl.ThriftSer
