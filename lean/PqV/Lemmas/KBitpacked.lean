import PqV.Lemmas.KVarint
import PqV.Lemmas.Wrap
/-!
The two bit readers (`read_bitpacked`: `uint32` accumulator, `delta_read_bitpacked`: `uint64`) are the same machine:
load a byte on top of the accumulator, shift a used byte out of it, or mask the next value out of it.  Where such a loop
stands is a `Cursor`; the state it is in there is a function of the cursor (`bpAt`, `dbpAt` in `KDelta`), each step maps
the state at one cursor to the state at the next, and `loop_cursor` runs the loop.  This file has the shared part and
`read_bitpacked`.
-/
namespace PqV.Impl
open PqV.Spec

def streamOf (buf : List Nat) (ip0 : Nat) : Nat := leNat (buf.drop ip0)

theorem rd_ok (buf : List Nat) (i : Nat) (h : i < buf.length) : rd buf i = .ok buf[i] := by
  simp [rd, h]

theorem stream_byte (buf : List Nat) (hbytes : ∀ b ∈ buf, b < 256) (ip0 i : Nat) (hi : ip0 + i < buf.length) :
    window (streamOf buf ip0) (8 * i) 8 = buf[ip0 + i] := by
  rw [streamOf, window_leNat _ (fun b hb => hbytes b (List.mem_of_mem_drop hb)) i (by simp; omega)]
  simp

theorem rd_stream (buf : List Nat) (hbytes : ∀ b ∈ buf, b < 256) (ip0 i : Nat) (hi : ip0 + i < buf.length) :
    rd buf (ip0 + i) = .ok (window (streamOf buf ip0) (8 * i) 8) := by
  rw [stream_byte buf hbytes ip0 i hi]; exact rd_ok buf _ hi

theorem and_ff (b : Nat) (h : b < 256) : b &&& 0xff = b :=
  (Nat.and_two_pow_sub_one_eq_mod b 8).trans (Nat.mod_eq_of_lt h)

theorem maskForBits_eq (w : Nat) (h : w ≤ 31) : maskForBits w = 2 ^ w - 1 := by
  have hpos : 1 ≤ 2 ^ w := Nat.one_le_two_pow
  have : 2 ^ w ≤ 2 ^ 31 := Nat.pow_le_pow_right (by decide) h
  exact wrapU_of_eq 32 _ _ (by rw [Int.natCast_sub hpos, Int.natCast_pow]; rfl) (by omega)

theorem window_load (S a l W : Nat) (hW : l + 8 ≤ W) :
    (window S a l ||| window S (a + l) 8 <<< l) % 2 ^ W = window S a (l + 8) := by
  rw [window_append]
  exact Nat.mod_eq_of_lt (Nat.lt_of_lt_of_le (window_lt ..) (Nat.pow_le_pow_right (by decide) hW))

theorem push_capped {α} (f : Nat → α) (k cap : Nat) :
    (if ((List.range (min k cap)).map f).length < cap then (List.range (min k cap)).map f ++ [f k]
      else (List.range (min k cap)).map f) = (List.range (min (k + 1) cap)).map f := by
  rw [List.length_map, List.length_range]
  by_cases hk : k < cap
  · rw [if_pos (by omega), Nat.min_eq_left (by omega), Nat.min_eq_left (by omega), List.range_succ, List.map_append]; rfl
  · rw [if_neg (by omega), Nat.min_eq_right (by omega), Nat.min_eq_right (by omega)]

/-- Where a bit reader stands in a run of `n` values of width `w` held in `Lf` bytes: `B` bytes shifted out of its
    accumulator of `W` bits, `j` bytes in it, the low `r` bits of those used up by the `k` values taken so far; `L0` bytes
    are loaded before the loop.  `ahead` is what bounds the width: a byte is loaded only while fewer than `w` unused bits
    are left, so the accumulator never holds more than `r + w + 7` bits. -/
structure Cursor (W w n L0 Lf B j r k : Nat) : Prop where
  pos : 8 * B + r = k * w
  used : r ≤ 8 * j
  fits : 8 * j ≤ W
  ahead : r ≤ 8 + w
  k_le : k ≤ n
  loaded : B + j ≤ Lf
  first : L0 ≤ B + j

section
variable {W w n L0 Lf B j r k : Nat}

theorem Cursor.load (c : Cursor W w n L0 Lf B j r k) (hW : 8 * j + 8 ≤ W) (hL : B + j < Lf) :
    Cursor W w n L0 Lf B (j + 1) r k := by
  obtain ⟨h1, h2, h3, h4, h5, h6, h7⟩ := c
  exact ⟨h1, by omega, by omega, h4, h5, by omega, by omega⟩

theorem Cursor.drop (c : Cursor W w n L0 Lf B (j + 1) (r + 8) k) :
    Cursor W w n L0 Lf (B + 1) j r k := by
  obtain ⟨h1, h2, h3, h4, h5, h6, h7⟩ := c
  exact ⟨by omega, by omega, by omega, by omega, h5, by omega, by omega⟩

theorem Cursor.take (c : Cursor W w n L0 Lf B j r k) (hr : r ≤ 8) (hj : r + w ≤ 8 * j) (hk : k < n) :
    Cursor W w n L0 Lf B j (r + w) (k + 1) := by
  obtain ⟨h1, h2, h3, h4, h5, h6, h7⟩ := c
  exact ⟨by rw [Nat.add_one_mul k w]; omega, hj, h3, by omega, hk, h6, h7⟩

end

/-- A fuel-bounded `while count ≠ 0` loop whose state is a function `st` of the cursor runs to the end of the run:
    a cursor is `2·B + j + k` steps from the start and no cursor is further than `2·Lf + n`. -/
theorem loop_cursor {σ : Type} {W w n L0 Lf : Nat} (st : Nat → Nat → Nat → Nat → σ) (count : σ → Nat)
    (step : σ → K σ) (loop : Nat → σ → K σ) (hcount : ∀ B j r k, count (st B j r k) = n - k)
    (hd : ∀ f s, count s = 0 → loop f s = .ok s) (hs : ∀ f s, count s ≠ 0 → loop (f + 1) s = step s >>= loop f)
    (hstep : ∀ B j r k, Cursor W w n L0 Lf B j r k → k < n → ∃ B' j' r' k', step (st B j r k) = .ok (st B' j' r' k') ∧
      Cursor W w n L0 Lf B' j' r' k' ∧ 2 * B' + j' + k' = 2 * B + j + k + 1) :
    ∀ f B j r k, Cursor W w n L0 Lf B j r k → 2 * Lf + n ≤ f + (2 * B + j + k) →
      ∃ B' j' r', loop f (st B j r k) = .ok (st B' j' r' n) ∧ Cursor W w n L0 Lf B' j' r' n := by
  intro f
  induction f with
  | zero =>
    intro B j r k c hf
    obtain rfl : k = n := by have := c.loaded; have := c.k_le; omega
    exact ⟨B, j, r, hd 0 _ (by rw [hcount]; omega), c⟩
  | succ f ih =>
    intro B j r k c hf
    by_cases hk : k = n
    · subst hk
      exact ⟨B, j, r, hd _ _ (by rw [hcount]; omega), c⟩
    · have hk' : k < n := by have := c.k_le; omega
      obtain ⟨B', j', r', k', he, c', ht⟩ := hstep B j r k c hk'
      rw [hs f _ (by rw [hcount]; omega), he]
      exact ih B' j' r' k' c' (by omega)

def bpAt (S ip0 w n cap B j r k : Nat) : BP :=
  { ip := ip0 + (B + j), data := window S (8 * B) (8 * j), left := 8 * j, right := r,
    count := n - k, emitted := unpackNat w (min k cap) S }

/-- `w ≤ 24`: a byte is loaded when `r ≤ 8` and fewer than `w` bits are ahead, i.e. on top of at most `w + 7 < 32` bits. -/
theorem bpStep_at (buf : List Nat) (S ip0 w n cap Lf B j r k : Nat) (hw : w ≤ 24) (hLf : n * w ≤ 8 * Lf)
    (hS : ∀ i, i < Lf → rd buf (ip0 + i) = .ok (window S (8 * i) 8))
    (c : Cursor 32 w n 1 Lf B j r k) (hk : k < n) :
    ∃ B' j' r' k', bpStep buf w 4 cap (bpAt S ip0 w n cap B j r k) = .ok (bpAt S ip0 w n cap B' j' r' k') ∧
      Cursor 32 w n 1 Lf B' j' r' k' ∧ 2 * B' + j' + k' = 2 * B + j + k + 1 := by
  have h1 := c.pos; have h2 := c.used; have h3 := c.fits
  have hnw : (k + 1) * w ≤ n * w := Nat.mul_le_mul_right w hk
  rw [Nat.add_one_mul k w] at hnw
  unfold bpStep
  simp only [bpAt]
  by_cases hA : r > 8
  · -- a whole used byte at the bottom: shift it out
    simp only [hA, if_true]
    obtain ⟨j, rfl⟩ : ∃ j', j = j' + 1 := ⟨j - 1, by omega⟩
    obtain ⟨r, rfl⟩ : ∃ r', r = r' + 8 := ⟨r - 8, by omega⟩
    refine ⟨B + 1, j, r, k, ?_, c.drop, by omega⟩
    simp only [Except.ok.injEq, BP.mk.injEq, and_true]
    refine ⟨by omega, ?_, wrapU_of_eq 8 _ _ (by omega) (by omega), rfl⟩
    exact window_div S (8 * B) (8 * (j + 1)) 8 (by omega)
  · simp only [hA, if_false]
    by_cases hB : ((8 * j : Nat) : Int) - (r : Nat) < w
    · -- fewer than `w` bits ahead: load a byte; one is left, since value `k` ends within the `Lf` bytes (`hnw`, `hLf`)
      simp only [hB, if_true]
      have hL : B + j < Lf := by omega
      have hW : 8 * j + 8 ≤ 32 := by omega
      refine ⟨B, j + 1, r, k, ?_, c.load hW hL, by omega⟩
      have hnf : ¬ (8 * j ≥ 32) := by omega
      simp only [hnf, if_false, hS _ hL, bind, Except.bind, and_ff _ (window_lt S _ 8), Except.ok.injEq, BP.mk.injEq, and_true]
      refine ⟨by omega, ?_, wrapU_of_eq 8 _ _ (by omega) (by omega)⟩
      rw [Nat.mul_add]
      exact window_load S _ _ 32 hW
    · -- take the next value
      simp only [hB, if_false]
      have hj : r + w ≤ 8 * j := by omega
      have hr : ¬ (r ≥ 32) := by omega
      simp only [hr, if_false]
      refine ⟨B, j, r + w, k + 1, ?_, c.take (by omega) hj hk, by omega⟩
      simp only [if_true, Except.ok.injEq, BP.mk.injEq, true_and]
      refine ⟨wrapU_of_eq 8 _ _ (by omega) (by omega), by omega, ?_⟩
      rw [maskForBits_eq w (by omega), shiftRight_and_mask, window_window _ _ _ _ _ hj, h1]
      exact push_capped (fun i => bitField w i S) k cap

/-- `max 1`: the first load is unconditional. -/
theorem readBitpacked_stream (buf : List Nat) (S ip0 header w : Nat) (o : Out) (hw : w ≤ 24)
    (hS : ∀ i, i < max 1 ((header / 2 * 8 * w + 7) / 8) → rd buf (ip0 + i) = .ok (window S (8 * i) 8)) :
    readBitpacked buf ip0 header w o 4
      = .ok ({ items := o.items ++ unpackNat w (min (header / 2 * 8) (o.cap / 4)) S,
               cap := o.cap - (min (header / 2 * 8) (o.cap / 4)) * 4 },
             ip0 + max 1 ((header / 2 * 8 * w + 7) / 8)) := by
  generalize hn : header / 2 * 8 = n at *
  -- the first byte is loaded before the loop: it starts at the cursor with one byte in the accumulator
  obtain ⟨B', j', r', hl, c'⟩ := loop_cursor (bpAt S ip0 w n (o.cap / 4)) BP.count (bpStep buf w 4 (o.cap / 4))
    (bpLoop buf w 4 (o.cap / 4)) (fun _ _ _ _ => rfl) (fun f s h => by cases f <;> simp only [bpLoop, h, if_true])
    (fun f s h => by simp only [bpLoop, h, if_false])
    (fun B j r k c hk => bpStep_at buf _ ip0 w n _ (max 1 ((n * w + 7) / 8)) B j r k hw (by omega) hS c hk)
    (n * (w + 12) + 16) 0 1 0 0 ⟨by omega, by omega, by omega, by omega, by omega, by omega, by omega⟩
    (by rw [Nat.mul_add]; omega)
  have h14 : ¬ (w = 1 ∧ (4 : Nat) = 1) := by omega
  have h32 : ¬ (w ≥ 31) := by omega
  have hrd := hS 0 (by omega)
  have hs0 : ({ ip := ip0 + 1, data := window S (8 * 0) 8, left := 8, right := 0, count := n, emitted := [] } : BP)
      = bpAt S ip0 w n (o.cap / 4) 0 1 0 0 := by
    simp [bpAt, unpackNat]
  rw [Nat.add_zero] at hrd
  simp only [readBitpacked, hn, h14, if_false, h32, hrd, bind, Except.bind, and_ff _ (window_lt _ _ 8), hs0, hl]
  simp only [bpAt, unpackNat, List.length_map, List.length_range]
  have : B' + j' = max 1 ((n * w + 7) / 8) := by obtain ⟨h1, h2, h3, h4, h5, h6, h7⟩ := c'; omega
  rw [this]

end PqV.Impl
