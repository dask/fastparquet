import PqV.Spec.Varint
namespace PqV.Spec

theorem uvarintEnc_bytes (x : Nat) : ∀ b ∈ uvarintEnc x, b < 256 := by
  induction x using Nat.strongRecOn with
  | _ x ih =>
    intro b hb
    unfold uvarintEnc at hb
    split at hb
    · simp at hb; omega
    · simp at hb
      rcases hb with hb | hb
      · omega
      · exact ih (x / 128) (by omega) b hb

theorem uvarintDecAux_enc (x : Nat) (rest : List Nat) (shift acc : Nat) :
    uvarintDecAux (uvarintEnc x ++ rest) shift acc = some (acc + x * 2 ^ shift, rest) := by
  induction x using Nat.strongRecOn generalizing shift acc with
  | _ x ih =>
    unfold uvarintEnc
    split
    · rename_i h
      simp [uvarintDecAux, h]
    · rename_i h
      have h1 : ¬ (x % 128 + 128 < 128) := by omega
      simp only [List.cons_append, uvarintDecAux, h1, if_false]
      rw [ih (x / 128) (by omega)]
      have : (x % 128 + 128) % 128 = x % 128 := by omega
      rw [this]
      have hx : x * 2 ^ shift = x % 128 * 2 ^ shift + x / 128 * 2 ^ (shift + 7) := by
        conv => lhs; rw [← Nat.mod_add_div x 128]
        rw [Nat.add_mul, Nat.pow_add, Nat.mul_comm 128, Nat.mul_assoc, Nat.mul_comm 128]
      rw [hx, Nat.add_assoc]

theorem uvarint_rt (x : Nat) (rest : List Nat) :
    uvarintDec (uvarintEnc x ++ rest) = some (x, rest) := by
  simp [uvarintDec, uvarintDecAux_enc]

theorem uvarintEnc_length_pos (x : Nat) : 0 < (uvarintEnc x).length := by
  unfold uvarintEnc; split <;> simp

theorem uvarintLen_eq (x : Nat) : uvarintLen x = if x < 128 then 1 else 1 + uvarintLen (x / 128) := by
  unfold uvarintLen; rw [uvarintEnc]; split <;> simp; omega

theorem div128_lt {x k : Nat} (h : x < 2 ^ (7 * (k + 1))) : x / 128 < 2 ^ (7 * k) := by
  rw [Nat.mul_succ, Nat.pow_add] at h
  exact Nat.div_lt_of_lt_mul (by rwa [Nat.mul_comm] at h)

theorem uvarintLen_le (k : Nat) (hk : 1 ≤ k) (x : Nat) (hx : x < 2 ^ (7 * k)) :
    uvarintLen x ≤ k := by
  induction k generalizing x with
  | zero => omega
  | succ k ih =>
    rw [uvarintLen_eq]
    split
    · omega
    · rename_i h
      by_cases hk0 : k = 0
      · subst hk0; simp at hx; omega
      · have := ih (by omega) (x / 128) (div128_lt hx)
        omega

theorem zigzag_rt (n : Int) : zigzagDec (zigzagEnc n) = n := by
  unfold zigzagDec zigzagEnc
  split <;> split <;> omega

end PqV.Spec
